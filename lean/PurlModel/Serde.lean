/-
  PurlModel.Serde — `impl Serialize` (format.rs:84-101: `collect_str(Display)`) and
  `impl Deserialize` (parse.rs:301-343: `deserialize_str` + visitor calling `from_str`) over an
  abstract JSON value.  serde_json's text layer (escaping / unescaping of a string value) is modelled
  separately in PurlModel/JsonText.lean.
-/
import PurlModel.Purl
namespace Purl

/-- the kinds of value of serde's data model `deserialize_str` can meet (JSON has the first six; other formats and
`serde::de::value` also have bytes and chars) -/
inductive Json where
  | null
  | bool (b : Bool)
  | num
  | str (s : Str)
  | arr
  | obj
  | bytes (b : Str)     -- a byte string (even one that is valid UTF-8 and spells a PURL) is not a string value
  | char (c : Char)
  deriving Repr, DecidableEq

/-- serde error: the PURL's own error passed through `Error::custom`, or a wrong value kind -/
inductive DeErr (ε : Type) where
  | custom (e : ε)
  | invalidType
  deriving Repr

/-- `Serialize for GenericPurl<T>`: a single string value holding the canonical string -/
def ser {τ : Type} (typeStr : τ → Str) (p : GPurl τ) : Res PErr Json :=
  match display typeStr p with
  | .ok s => .ok (.str s)
  | .error f => .error f

/-- `Deserialize for GenericPurl<T>` -/
def de {τ ε : Type} (parse : Str → Res ε (GPurl τ)) : Json → Res (DeErr ε) (GPurl τ)
  | .str s =>
    match parse s with
    | .ok p => .ok p
    | .error (.err e) => .error (.err (.custom e))
    | .error (.panic x) => .error (.panic x)
  | _ => .error (.err .invalidType)

end Purl
