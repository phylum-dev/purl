/-
  PurlModel.Quals — `purl::Qualifiers` (qualifiers.rs): a `Vec` of
  (lower-case key, value) kept sorted by key, searched by binary search with a
  comparator that lower-cases the probe.

  `Vec` indexing / insert / remove are modelled with their panics (`vecGet` …),
  `binary_search_by` by its contract on a sorted slice (first index whose key is
  ≥ the probe; found iff equal) — sortedness is the invariant `QInv`
  (Lemmas/QualsInv.lean), so the contract's precondition is a theorem.
-/
import PurlModel.Basic
import PurlModel.Unicode
import PurlModel.Generated.Tables
namespace Purl

/-! ### `Vec` primitives with their panics -/

def vecGet {ε α : Type} (l : List α) (i : Nat) : Res ε α :=
  match l[i]? with
  | some a => .ok a
  | none => panic .vecIndex

def vecSet {ε α : Type} (l : List α) (i : Nat) (a : α) : Res ε (List α) :=
  if i < l.length then .ok (l.set i a) else panic .vecIndex

def vecInsert {ε α : Type} (l : List α) (i : Nat) (a : α) : Res ε (List α) :=
  if i ≤ l.length then .ok (l.insertIdx i a) else panic .vecInsert

def vecRemove {ε α : Type} (l : List α) (i : Nat) : Res ε (α × List α) :=
  match l[i]? with
  | some a => .ok (a, l.eraseIdx i)
  | none => panic .vecRemove

/-! ### keys -/

/-- `is_valid_qualifier_name` (qualifiers.rs:513-518); special chars translated. -/
def isValidKey (k : Str) : Bool :=
  !k.isEmpty && k.all fun c => isAsciiAlnum c || Generated.keySpecials.contains c

/-- `MixedQualifierKey<S>` (qualifiers.rs:553-558). -/
inductive MixedKey where
  | lower (s : Str)
  | mixed (s : Str)
  deriving Repr, DecidableEq

def MixedKey.asRef : MixedKey → Str
  | .lower s => s
  | .mixed s => s

/-- `MixedQualifierKey::into_key` (qualifiers.rs:566-578). -/
def MixedKey.intoKey : MixedKey → Str
  | .lower s => s
  | .mixed s => asciiLower s

/-- `check_qualifier_key` (qualifiers.rs:593-606). -/
def checkKey (k : Str) : Except PErr MixedKey :=
  if !isValidKey k then .error .invalidQualifier
  else if k.all isAsciiLower then .ok (.lower k)
  else .ok (.mixed k)

/-- `QualifierKey::partial_cmp` (qualifiers.rs:330-338): always `Some`. -/
def keyPartialCmp (U : UnicodeOps) (qk : Str) (other : Str) : Option Ordering :=
  some (cmpStr qk (U.lowerFull other))

/-- `QualifierKey::eq` (qualifiers.rs:321-328). -/
def keyEq (U : UnicodeOps) (qk : Str) (other : Str) : Bool :=
  match keyPartialCmp U qk other with
  | some o => o == .eq
  | none => false

abbrev Quals := List (Str × Str)

/-- contract of `binary_search_by` on a slice sorted by the comparator:
`(true, i)` = `Ok(i)`, `(false, i)` = `Err(i)`. -/
def searchFrom (U : UnicodeOps) (probe : Str) : Quals → Nat → Res PErr (Bool × Nat)
  | [], i => .ok (false, i)
  | (k, _) :: rest, i =>
    match keyPartialCmp U k probe with
    | none => panic .cmpUnwrap
    | some .lt => searchFrom U probe rest (i + 1)
    | some .eq => .ok (true, i)
    | some .gt => .ok (false, i)

/-- `Qualifiers::search` (qualifiers.rs:150-155). -/
def Quals.search (U : UnicodeOps) (q : Quals) (key : MixedKey) : Res PErr (Bool × Nat) :=
  searchFrom U key.asRef q 0

/-- `Qualifiers::get_index` (qualifiers.rs:141-148). -/
def Quals.getIndex (U : UnicodeOps) (q : Quals) (key : Str) : Res PErr (Option Nat) :=
  match checkKey key with
  | .error _ => .ok none
  | .ok mk =>
    match q.search U mk with
    | .error f => .error f
    | .ok (true, i) => .ok (some i)
    | .ok (false, _) => .ok none

/-- `Qualifiers::get` (qualifiers.rs:114-119). -/
def Quals.get (U : UnicodeOps) (q : Quals) (key : Str) : Res PErr (Option Str) :=
  match q.getIndex U key with
  | .error f => .error f
  | .ok none => .ok none
  | .ok (some i) =>
    match vecGet (ε := PErr) q i with
    | .error f => .error f
    | .ok kv => .ok (some kv.2)

/-- `Qualifiers::contains_key` (qualifiers.rs:191-196). -/
def Quals.containsKey (U : UnicodeOps) (q : Quals) (key : Str) : Res PErr Bool :=
  match q.getIndex U key with
  | .error f => .error f
  | .ok o => .ok o.isSome

/-- `Entry` (qualifiers.rs:374-377): index + (for vacant) the checked key. -/
inductive Entry where
  | occupied (i : Nat)
  | vacant (i : Nat) (key : MixedKey)
  deriving Repr, DecidableEq

/-- `Qualifiers::entry` (qualifiers.rs:162-177). -/
def Quals.entry (U : UnicodeOps) (q : Quals) (key : Str) : Res PErr Entry :=
  match checkKey key with
  | .error e => fail e
  | .ok mk =>
    match q.search U mk with
    | .error f => .error f
    | .ok (true, i) => .ok (.occupied i)
    | .ok (false, i) => .ok (.vacant i mk)

/-- `VacantEntry::insert` (qualifiers.rs:478-484): returns the new value slot's content and the list. -/
def Quals.vacantInsert (q : Quals) (i : Nat) (key : MixedKey) (v : Str) : Res PErr (Str × Quals) :=
  match vecInsert (ε := PErr) q i (key.intoKey, v) with
  | .error f => .error f
  | .ok q' =>
    match vecGet (ε := PErr) q' i with
    | .error f => .error f
    | .ok kv => .ok (kv.2, q')

/-- `OccupiedEntry::get` / `get_mut` / `into_mut` (qualifiers.rs:435-449). -/
def Quals.occGet (q : Quals) (i : Nat) : Res PErr Str :=
  match vecGet (ε := PErr) q i with
  | .error f => .error f
  | .ok kv => .ok kv.2

/-- assignment through the `&mut SmallString` handed out for index `i`. -/
def Quals.setAt (q : Quals) (i : Nat) (v : Str) : Res PErr Quals :=
  match vecGet (ε := PErr) q i with
  | .error f => .error f
  | .ok kv => vecSet q i (kv.1, v)

/-- `OccupiedEntry::insert` (qualifiers.rs:454-461): returns the previous value. -/
def Quals.occInsert (q : Quals) (i : Nat) (v : Str) : Res PErr (Str × Quals) :=
  match vecGet (ε := PErr) q i with
  | .error f => .error f
  | .ok kv =>
    match vecSet (ε := PErr) q i (kv.1, v) with
    | .error f => .error f
    | .ok q' => .ok (kv.2, q')

/-- `OccupiedEntry::remove_entry` (qualifiers.rs:429-432). -/
def Quals.occRemoveEntry (q : Quals) (i : Nat) : Res PErr ((Str × Str) × Quals) :=
  vecRemove q i

/-- `Qualifiers::insert` (qualifiers.rs:207-224): returns the stored value. -/
def Quals.insert (U : UnicodeOps) (q : Quals) (key v : Str) : Res PErr (Str × Quals) :=
  match checkKey key with
  | .error e => fail e
  | .ok mk =>
    match q.search U mk with
    | .error f => .error f
    | .ok (true, i) =>
      match q.setAt i v with
      | .error f => .error f
      | .ok q' =>
        match vecGet (ε := PErr) q' i with
        | .error f => .error f
        | .ok kv => .ok (kv.2, q')
    | .ok (false, i) =>
      match vecInsert (ε := PErr) q i (mk.intoKey, v) with
      | .error f => .error f
      | .ok q' =>
        match vecGet (ε := PErr) q' i with
        | .error f => .error f
        | .ok kv => .ok (kv.2, q')

/-- `Qualifiers::insert_typed` / the insertion half of `try_insert_typed`
(qualifiers.rs:232-258): `insert(KEY, v).unwrap()`. -/
def Quals.insertTyped (U : UnicodeOps) (q : Quals) (key v : Str) : Res PErr Quals :=
  match q.insert U key v with
  | .ok (_, q') => .ok q'
  | .error (.err _) => panic .typedKey
  | .error (.panic s) => panic s

/-- `Qualifiers::remove` (qualifiers.rs:261-270). -/
def Quals.remove (U : UnicodeOps) (q : Quals) (key : Str) : Res PErr (Option Str × Quals) :=
  match q.getIndex U key with
  | .error f => .error f
  | .ok none => .ok (none, q)
  | .ok (some i) =>
    match vecRemove (ε := PErr) q i with
    | .error f => .error f
    | .ok (kv, q') => .ok (some kv.2, q')

/-- `Qualifiers::get_mut` (qualifiers.rs:180-188): index of the slot, if any. -/
def Quals.getMutIndex (U : UnicodeOps) (q : Quals) (key : Str) : Res PErr (Option Nat) :=
  match q.entry U key with
  | .ok (.occupied i) =>
    match vecGet (ε := PErr) q i with      -- `into_mut` indexes
    | .error f => .error f
    | .ok _ => .ok (some i)
  | .ok (.vacant _ _) => .ok none
  | .error (.err _) => .ok none
  | .error (.panic s) => panic s

/-- `Index`/`IndexMut` (qualifiers.rs:608-634): documented panic when absent. -/
def Quals.index (U : UnicodeOps) (q : Quals) (key : Str) : Res PErr Str :=
  match q.getIndex U key with
  | .error f => .error f
  | .ok none => panic .qualIndex
  | .ok (some i) =>
    match vecGet (ε := PErr) q i with
    | .error f => .error f
    | .ok kv => .ok kv.2

/-- `Qualifiers::retain` (qualifiers.rs:281-286). -/
def Quals.retain (q : Quals) (f : Str → Str → Bool) : Quals := q.filter fun kv => f kv.1 kv.2

/-- `Qualifiers::try_from_iter` (qualifiers.rs:33-51). -/
def Quals.tryFromIter (U : UnicodeOps) : List (Str × Str) → Quals → Res PErr Quals
  | [], acc => .ok acc
  | (k, v) :: rest, acc =>
    match acc.entry U k with
    | .error f => .error f
    | .ok (.occupied _) => fail .invalidQualifier
    | .ok (.vacant i mk) =>
      match acc.vacantInsert i mk v with
      | .error f => .error f
      | .ok (_, acc') => Quals.tryFromIter U rest acc'

end Purl
