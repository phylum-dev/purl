/-
  C12 — checksum qualifier: one canonical text, typed round trip, order independence.

  The hash map is a key-unique association list whose order stands for the (per-instance, per-run
  random) iteration order; "for every hash seed" is quantification over all permutations of that list.
-/
import PurlModel.Lemmas.Utf8Order
import PurlModel.Lemmas.Checksum
import PurlModel.Lemmas.Build
import PurlModel.Lemmas.Bytes
import PurlModel.Lemmas.RustUnicode
namespace Purl.C12
open Purl Purl.Generated

set_option linter.unusedSectionVars false
variable (U : UnicodeOps) [LawfulUnicode U]

/-- the text form is the same for every iteration order of the hash map: every insertion order, hash
seed, run -/
theorem text_order_independent (l₁ l₂ : Cksum) (h : l₁.Perm l₂) (hn : KeysNodup l₁) :
    Cksum.toText l₁ = Cksum.toText l₂ :=
  toText_perm h hn

/-- the text lists the entries sorted by algorithm, as `algorithm:hex` with lower-case hex, joined by `,` -/
theorem text_shape (c : Cksum) (h : ∀ kv ∈ c, hexOk kv.2 = true) :
    c.toText = .ok (joinWith ',' ((c.mergeSort cksumLe).map entryText)) ∧
    (c.mergeSort cksumLe).Pairwise (fun a b => strLe a.1 b.1 = true) :=
  ⟨toText_ok c h, sorted_pairwise c⟩

/-- a value that is not an even number of hex digits is refused, never serialised -/
theorem text_refuses_bad_hex (c : Cksum) (h : ∃ kv ∈ c, hexOk kv.2 = false) : c.toText = fail .invalidQualifier :=
  toText_err c h

/-- serialisation never panics — in particular not for the empty value, whose text is empty -/
theorem text_never_panics (c : Cksum) : c.toText.isPanic = false := toText_no_panic c

theorem empty_text : Cksum.toText [] = .ok [] := toText_nil

/-- the text parses back to the entries, sorted and with lower-case hex -/
theorem text_roundtrip (c : Cksum) (hne : c ≠ []) (hn : KeysNodup c) (hok : ∀ kv ∈ c, hexOk kv.2 = true)
    (hcomma : ∀ kv ∈ c, ',' ∉ kv.1) (hlow : ∀ kv ∈ c, U.lowerFull kv.1 = kv.1) :
    ∃ t, c.toText = .ok t ∧ Cksum.ofText U t = .ok ((c.mergeSort cksumLe).map lowerEntry) :=
  ofText_toText U c hne hn hok hcomma hlow

/-- decoding an inserted entry returns exactly the inserted bytes -/
theorem bytes_roundtrip (b : Bytes) : hexDecode (hexEncode b) = some b := hexDecode_hexEncode b

/-- inserting under any letter case stores under the lower-cased algorithm … -/
theorem insert_lookup (c : Cksum) (hlow : ∀ kv ∈ c, U.lowerFull kv.1 = kv.1) (alg v k : Str) :
    (c.insertRaw U alg v).lookup k = if k = U.lowerFull alg then some v else c.lookup k :=
  lookup_insertRaw U c hlow alg v k

/-- … so inserting an algorithm again in another letter case replaces the earlier entry -/
theorem insert_other_case_replaces (c : Cksum) (hlow : ∀ kv ∈ c, U.lowerFull kv.1 = kv.1) (a a' v w : Str)
    (h : U.lowerFull a = U.lowerFull a') :
    ((c.insertRaw U a w).insertRaw U a' v).lookup (U.lowerFull a) = some v := by
  have hlow' : LowerKeys U (c.insertRaw U a w) := by
    rw [insertRaw_eq U hlow]
    exact lowerKeys_hmInsert U hlow (lowerFull_idem U a) w
  rw [lookup_insertRaw U _ hlow', if_pos h]

/-- a built or parsed PURL holds `toText (ofText text)` under `checksum`; nothing else is changed -/
theorem purl_carries_canonical_text {τ ε : Type} (lift : PErr → ε) (ty : τ) (parts : Parts) (p : GPurl τ)
    (hq : QInv parts.quals) (h : postFinish U lift ty parts = .ok p) :
    (lookup (nonEmptyQuals parts.quals) checksumKey = none ∧ p.parts.quals = nonEmptyQuals parts.quals) ∨
    (∃ text ck t, lookup (nonEmptyQuals parts.quals) checksumKey = some text ∧ Cksum.ofText U text = .ok ck ∧
        ck.toText = .ok t ∧ lookup p.parts.quals checksumKey = some t ∧
        ∀ k, k ≠ checksumKey → lookup p.parts.quals k = lookup (nonEmptyQuals parts.quals) k) := by
  obtain ⟨_, q, hf, rfl⟩ := postFinish_eq_ok.1 h
  rcases fixQuals_ok U hq hf with hc | ⟨text, ck, t, h1, h2, h3, rfl⟩
  · exact .inl hc
  · refine .inr ⟨text, ck, t, h1, h2, h3, ?_, fun k hk => ?_⟩
    · rw [lookup_upsert t, if_pos rfl]
    · rw [lookup_upsert t, if_neg hk]

/-- two equivalent spellings of a checksum (same entries in another order) give one text -/
theorem equivalent_spellings_one_text (t₁ t₂ : Str) (c₁ c₂ : Cksum) (h₁ : Cksum.ofText U t₁ = .ok c₁)
    (h₂ : Cksum.ofText U t₂ = .ok c₂) (hp : c₁.Perm c₂) (hn : KeysNodup c₁) : c₁.toText = c₂.toText :=
  toText_perm hp hn

/-! ### non-vacuity -/

example : ∀ kv ∈ [((['b'] : Str), (['A', 'B'] : Str)), (['a'], ['0', '0'])], hexOk kv.2 = true := by decide +kernel
example : KeysNodup [(['b'], ['A', 'B']), (['a'], ['0', '0'])] := by unfold KeysNodup; decide +kernel
example : hexOk ['A', 'b', '0', '9'] = true ∧ hexOk ['A'] = false ∧ hexOk ['z', 'z'] = false := by decide +kernel

/-- instantiation at the linked tables -/
theorem insert_other_case_replaces_rust (c : Cksum) (hlow : ∀ kv ∈ c, rustUnicode.lowerFull kv.1 = kv.1) (a a' v w : Str)
    (h : rustUnicode.lowerFull a = rustUnicode.lowerFull a') :
    ((c.insertRaw rustUnicode a w).insertRaw rustUnicode a' v).lookup (rustUnicode.lowerFull a) = some v :=
  insert_other_case_replaces rustUnicode c hlow a a' v w h

/-- the serialiser sorts the entries with `sort_unstable_by(|a, b| a.0.cmp(b.0))`, i.e. by the UTF-8 bytes
of the algorithm names; the model sorts by scalar values — the same order, non-ASCII names included -/
theorem algorithm_order_is_byte_order (a b : Str) : cmpBytes (utf8 a) (utf8 b) = cmpStr a b :=
  cmpBytes_utf8 a b

end Purl.C12
