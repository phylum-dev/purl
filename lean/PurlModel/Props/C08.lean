/-
  C08 — package-type rules: pypi and nuget names, maven namespace, others untouched.
-/
import PurlModel.Lemmas.Rebuild
import PurlModel.Props.C15
import PurlModel.Lemmas.RustUnicode
namespace Purl.C08
open Purl Purl.Generated

set_option linter.unusedSectionVars false
variable (U : UnicodeOps) [LawfulUnicode U]

/-! ### the rules, written from the property text -/

theorem length_dropWhile_le (f : Char → Bool) (l : Str) : (l.dropWhile f).length ≤ l.length := by
  induction l with
  | nil => simp
  | cons x xs ih =>
    simp only [List.dropWhile_cons]
    split
    · simp only [List.length_cons]; omega
    · simp

/-- pypi: every maximal run of `- _ .` becomes one `-`, every other character its lower-case mapping -/
def specPypi (U : UnicodeOps) : Str → Str
  | [] => []
  | c :: cs =>
    if isDash c then '-' :: specPypi U (cs.dropWhile isDash)
    else U.toLower c ++ specPypi U cs
termination_by s => s.length
decreasing_by
  · have := length_dropWhile_le isDash cs
    simp only [List.length_cons]
    omega
  · simp

/-- the pypi name rule is the documented function -/
theorem pypi_rule (n : Str) : fixPypi U n = specPypi U n := by
  rw [fixPypi_eq_loop]
  -- the loop's flag says that a separator has just been written: the rest of the run is skipped
  have key : ∀ s : Str, pypiLoop U s false = specPypi U s ∧ pypiLoop U s true = specPypi U (s.dropWhile isDash) := by
    intro s
    induction s with
    | nil => simp [pypiLoop, specPypi]
    | cons c cs ih =>
      rw [pypiLoop_cons, pypiLoop_cons, List.dropWhile_cons]
      cases hc : isDash c with
      | true =>
        rw [specPypi, hc]
        simp only [if_true, Bool.not_false, Bool.not_true, Bool.false_eq_true, if_false, ih.2, and_self]
      | false =>
        have e : specPypi U (c :: cs) = U.toLower c ++ specPypi U cs := by rw [specPypi, hc]; rfl
        simp only [Bool.false_eq_true, if_false, ih.1, e, and_self]
  exact (key n).1

/-- the nuget name rule: each character replaced by its Unicode lower-case mapping, nothing else -/
theorem nuget_rule (n : Str) : lowerInPlace U n = n.flatMap U.toLower :=
  lowerInPlace_eq_lowerFull U n

theorem hook_per_type (t : PkgType) (parts : Parts) :
    (t = .PyPI → pkgFinish U t parts = .ok { parts with name := specPypi U parts.name }) ∧
    (t = .NuGet → pkgFinish U t parts = .ok { parts with name := parts.name.flatMap U.toLower }) ∧
    (t = .Maven → pkgFinish U t parts =
        if (trimMatches '/' parts.ns).isEmpty then .error (.missingRequiredField .namespace) else .ok parts) ∧
    (t ≠ .PyPI → t ≠ .NuGet → t ≠ .Maven → pkgFinish U t parts = .ok parts) := by
  refine ⟨?_, ?_, ?_, ?_⟩
  · rintro rfl; simp only [pkgFinish, pypi_rule]
  · rintro rfl; simp only [pkgFinish, nuget_rule]
  · rintro rfl; rfl
  · intro h1 h2 h3
    cases t <;> simp_all [pkgFinish]

/-- for every type the hook leaves namespace, version, qualifiers and subpath alone -/
theorem hook_keeps_other_fields (t : PkgType) (a a' : Parts) (h : pkgFinish U t a = .ok a') :
    a'.ns = a.ns ∧ a'.version = a.version ∧ a'.quals = a.quals ∧ a'.subpath = a.subpath :=
  pkgFinish_keeps U h

/-- the parser and the builder apply the rules identically: the typed parser is `build()` applied to
the raw-parsed parts -/
theorem parser_goes_through_build (s a rest : Str) (parts0 parts1 : Parts) (t : PkgType)
    (h1 : parsePre U s = .ok (a, rest, parts0)) (h2 : PkgType.ofStr U a = some t)
    (h3 : parsePost rest parts0 = .ok parts1) :
    parseP U s = buildP U ⟨t, parts1⟩ := by
  unfold parseP buildP parseWith
  rw [h1]
  simp only [pkgShape, h2, h3]

/-- typed versus type-agnostic parser on the same string: known type ⇒ the hook applied to what the
type-agnostic parser returns (so namespace, version, qualifiers, subpath coincide and the name is the
rule's image; maven refused iff the namespace is absent); unknown type ⇒ UnsupportedType -/
theorem typed_vs_generic (s : Str) (g : GPurl Str) (h : parseS U s = .ok g) :
    (∀ t : PkgType, g.ty = t.name →
      parseP U s = (match pkgFinish U t g.parts with
        | .error e => fail e
        | .ok ps => .ok ⟨t, ps⟩)) ∧
    ((∀ t : PkgType, g.ty ≠ t.name) → parseP U s = fail .unsupportedType) := by
  obtain ⟨a, rest, parts0, t0, parts1, t0', parts2, h1, h2, h3, h4, h5⟩ := parseWith_ok_decompose U stringShape h
  cases h2
  simp only [stringShape] at h4 h5
  cases hsp : strPreviewMut a with
  | error e => rw [hsp] at h4; cases h4
  | ok t2 =>
    rw [hsp] at h4
    cases h4
    obtain ⟨-, rfl⟩ := strPreviewMut_ok hsp
    -- `g` is the raw parts with the type lower-cased and the qualifiers fixed
    obtain ⟨hname, q, hq, rfl⟩ := postFinish_eq_ok.1 h5
    constructor
    · intro t ht
      rw [parser_goes_through_build U s a rest parts0 parts1 t h1 (C15.lookup_anycase U a t ht) h3, buildP_eq,
        pkgFinish_eq, pkgFinish_eq]
      dsimp only
      by_cases hm : t = PkgType.Maven ∧ (trimMatches '/' parts1.ns).isEmpty = true
      · rw [if_pos hm, if_pos hm]
      · rw [if_neg hm, if_neg hm]
        exact postFinish_eq_ok.2 ⟨fixName_ne_nil U t hname, q, hq, rfl⟩
    · intro hnone
      have ho : PkgType.ofStr U a = none := by
        cases ho : PkgType.ofStr U a with
        | none => rfl
        | some t => exact absurd (C15.lookup_sound U a t ho) (hnone t)
      rw [parseP, parseWith_fst, h1]
      simp only [pkgShape, ho]

/-- `is_uppercase` is the wrong test for "lower-casing changes it": U+01C5 is not upper-case, yet it does -/
theorem titlecase_witness : rustUnicode.isUpper (Char.ofNat 0x1C5) = false ∧ rustUnicode.changes (Char.ofNat 0x1C5) = true ∧
    rustUnicode.toLower (Char.ofNat 0x1C5) = [Char.ofNat 0x1C6] := by decide +kernel

theorem nuget_rule_rust (n : Str) : lowerInPlace rustUnicode n = n.flatMap rustUnicode.toLower := nuget_rule rustUnicode n
theorem pypi_rule_rust (n : Str) : fixPypi rustUnicode n = specPypi rustUnicode n := pypi_rule rustUnicode n

end Purl.C08
