/-
  C13 — all built-in type parameters behave identically.

  The `String` and `SmartString` shapes are the same definition; the `Cow` shape differs in the
  borrowed branch (validate, then copy only if some character is not an ASCII lower-case letter).
  The three `finish` implementations compute the same type string and the same error, hence parsing
  (String / SmallString) and building (String / Cow borrowed / Cow owned / SmallString) give the same
  outcome: same acceptance, same error, same lower-cased type, same parts, same canonical string.
-/
import PurlModel.Purl
import PurlModel.Lemmas.Build
namespace Purl.C13
open Purl Purl.Generated

/-- forget which string type carries the package type -/
def eraseCow (p : GPurl CowStr) : GPurl Str := ⟨p.ty.2, p.parts⟩

theorem smallShape_eq_stringShape : smallShape = stringShape := rfl

theorem parseM_eq_parseS (U : UnicodeOps) (s : Str) : parseM U s = parseS U s := rfl

theorem buildM_eq_buildS (U : UnicodeOps) (b : GPurl Str) : buildM U b = buildS U b := rfl

/-- the borrowed branch of the `Cow` shape computes what `str_preview_mut` computes -/
theorem cow_finish_eq (owned : Bool) (v : Str) (parts : Parts) :
    (match (cowShape.finish (owned, v) parts ()).1 with
      | .ok (t, ps) => Except.ok (t.2, ps)
      | .error e => .error e) = (stringShape.finish v parts ()).1 := by
  rw [cowFinish_eq]
  dsimp only [stringShape, strPreviewMut]
  cases isValidType v <;> rfl

/-- building with a `Cow` (borrowed or owned) gives the same outcome as building with a `String` -/
theorem buildC_eq_buildS (U : UnicodeOps) (b : GPurl CowStr) :
    (match buildC U b with
      | .ok p => Except.ok (eraseCow p)
      | .error f => .error f) = buildS U (eraseCow b) := by
  have h := cow_finish_eq b.ty.1 b.ty.2 b.parts
  rw [buildC, buildS, buildWith_fst, buildWith_fst]
  dsimp only [eraseCow]
  rw [← h]
  cases (cowShape.finish b.ty b.parts ()).1 with
  | error e => rfl
  | ok tp =>
    obtain ⟨t, ps⟩ := tp
    show (match postFinish U id t ps with
      | .ok p => Except.ok (eraseCow p)
      | .error f => .error f) = postFinish U id ((fun t : CowStr => t.2) t) ps
    rw [postFinish_ty]
    cases postFinish U id t ps <;> rfl

/-- … and prints the same canonical string -/
theorem display_cow_eq (p : GPurl CowStr) : display (fun t : CowStr => t.2) p = displayS (eraseCow p) := rfl

/-! ### non-vacuity: the three finish implementations on a mixed-case type with `.+-` and digits -/

example : (cowShape.finish (false, ['A', 'b', '.', '+', '-', '9']) {} ()).1 = .ok ((true, ['a', 'b', '.', '+', '-', '9']), {}) := by rfl
example : (cowShape.finish (false, ['a', 'b']) {} ()).1 = .ok ((false, ['a', 'b']), {}) := by rfl
example : (stringShape.finish ['A', 'b', '.', '+', '-', '9'] {} ()).1 = .ok (['a', 'b', '.', '+', '-', '9'], {}) := by rfl
example : (cowShape.finish (false, ['a', '!']) {} ()).1 = .error .invalidPackageType := by rfl

end Purl.C13
