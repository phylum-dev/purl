/-
  C17 — behaviour does not depend on optional feature flags.

  The model has no configuration: `SmallString` is `Str` whichever crate backs it, the typed API is
  the same definitions whether or not it is compiled in, and serde only adds `ser`/`de`.  What
  decides C17 is therefore this family's correspondence check run against four builds of the real
  library ({default}, {package-type}, {}, {default, serde}) — each transcript must equal the
  model's, hence each other's.  The first three theorems only record what the model says; they are
  not the deciding argument (MANIFEST level: translation_validation).

  What the kernel checks on every run is a syntactic sufficient condition: the translator lists every
  conditional-compilation site of the non-test source (`Generated.cfgSites`: `#[cfg]`, `#![cfg]`,
  `#[cfg_attr]`, `cfg!`), and `features_only_add_items` says that each of them is `additive`; the one pair
  of alternative definitions (`cfg` / `cfg(not ..)`) is the type alias `SmallString`, which is what
  `small_string_is_string` is about.  A change that puts a feature-gated path inside the code breaks this
  theorem whether or not a stream reaches the input it needs.
-/
import PurlModel.Purl
namespace Purl.C17
open Purl Purl.Generated

/-- with or without the small-string optimisation the shape is the same function -/
theorem small_string_is_string : smallShape = stringShape := rfl

/-- so every observable of the SmallString instantiation is that of the String instantiation -/
theorem parse_same (U : UnicodeOps) (s : Str) : parseM U s = parseS U s := rfl
theorem build_same (U : UnicodeOps) (b : GPurl Str) : buildM U b = buildS U b := rfl

/-- a conditional-compilation site that can only add something: a whole item (`use`, module, `impl` block,
derive, function, type, constant) at the top level of a file or directly inside a module / `impl` block, not
negated — code that exists without the feature cannot use an item that exists only with it, or it would not
compile; the one exception with an alternative (`cfg(not ..)`) definition is a type alias.  Not additive:
anything on a statement, a block or an expression (`other`, `expr`, `attr`) or deeper than one brace. -/
def additive (s : CfgSite) : Bool :=
  s.depth ≤ 1 &&
  (match s.kind with
   | .use | .mod | .type | .impl | .derive | .fn | .item => true
   | _ => false) &&
  (!s.negated || s.kind == .type)

/-- every feature gate of the source adds whole items: no statement, block or expression is conditional -/
theorem features_only_add_items : cfgSites.all additive = true := by decide

/-- the only alternative definitions (`cfg(not(..))`) are type aliases (on the pinned tree: `SmallString` in lib.rs) -/
theorem alternatives_are_type_aliases :
    (cfgSites.filter (·.negated)).all (fun s => s.kind == .type) = true := by decide

/-- the predicate is not trivially true: a gate on a statement, an alternative (`cfg(not ..)`) function, a
gate inside an expression, an alternative `impl` are all refused -/
example : additive { file := "parse.rs", cond := "feature=\"smartstring\"", kind := .other, depth := 1, negated := false } = false ∧
    additive { file := "parse.rs", cond := "not(feature=\"smartstring\")", kind := .fn, depth := 0, negated := true } = false ∧
    additive { file := "parse.rs", cond := "feature=\"smartstring\"", kind := .expr, depth := 2, negated := false } = false ∧
    additive { file := "parse.rs", cond := "not(feature=\"smartstring\")", kind := .impl, depth := 0, negated := true } = false := by decide +kernel

end Purl.C17
