/-
  C06 — no input makes the library panic.

  Every Rust operation that can panic and is reachable is an explicit `panic site` outcome of
  the model (Vec index / insert / remove out of bounds, `partial_cmp(..).unwrap()`, the typed
  insert's `unwrap()`, `Index`, the `Display` type check, the capacity arithmetic); "no panic"
  is a theorem about those outcomes.  Termination is Lean's totality (structural recursion; `bsLoop`
  by its halving window; the JSON string reader of C16 by fuel).
  What these theorems cannot show: allocation failure, stack exhaustion (DESIGN.md §8).
-/
import PurlModel.Lemmas.ParseWF
import PurlModel.Lemmas.QualsStep
import PurlModel.Lemmas.BinSearch
import PurlModel.Lemmas.RustUnicode
import PurlModel.Props.C15
namespace Purl.C06
open Purl Purl.Generated

set_option linter.unusedSectionVars false
variable (U : UnicodeOps) [LawfulUnicode U]

/-- parsing any string, with any type parameter (user-supplied ones included) -/
theorem parse_never_panics {τ ε σ : Type} (S : Shape τ ε σ) (s : Str) (st : σ) :
    (parseWith U S s st).1.isPanic = false :=
  parseWith_no_panic U S s st

/-- building from any field values, with any type parameter -/
theorem build_never_panics {τ ε σ : Type} (S : Shape τ ε σ) (b : GPurl τ) (st : σ) :
    (buildWith U S b st).1.isPanic = false :=
  buildWith_no_panic U S b st

/-- formatting a PURL whose type string is valid — as with every built-in type parameter (C04) — does
not panic; with an invalid one it is the documented panic -/
theorem format_panics_iff {τ : Type} (typeStr : τ → Str) (p : GPurl τ) :
    (display typeStr p).isPanic = !isValidType (typeStr p.ty) := by
  unfold display
  cases isValidType (typeStr p.ty) <;> rfl

theorem format_builtin_never_panics (b p : GPurl Str) (h : buildS U b = .ok p) : (displayS p).isPanic = false := by
  obtain ⟨hv, e⟩ := buildS_ok_ty h
  unfold displayS
  rw [format_panics_iff, e]
  simp [isValidType_asciiLower hv]

theorem format_pkg_never_panics (p : GPurl PkgType) : (displayP p).isPanic = false := by
  unfold displayP
  rw [format_panics_iff, C15.name_valid]
  rfl

/-- every operation of the qualifier collection, in every state: no panic except the two documented ones -/
theorem quals_never_panic (q : Quals) (op : QOp) (h : docPanic q op = false) : ∃ r, q.step U op = .ok r :=
  step_ok U q op h

/-- … which do panic -/
theorem documented_index_panics (q : Quals) (k : Str) (h : docPanic q (.index k) = true) :
    q.step U (.index k) = panic .qualIndex :=
  step_index_absent_panics U q k h

theorem documented_typed_key_panics (q : Quals) (n : Nat) (v : Str) (h : isValidKey (knownKey n) = false) :
    q.step U (.insertTyped n v) = panic .typedKey :=
  step_insertTyped_invalid_panics U q n v h

/-- every operation of the typed checksum value, including serialising an empty one -/
theorem checksum_never_panics (c : Cksum) (op : CkOp) : (c.step U op).isPanic = false := by
  cases op with
  | ofText s => simp only [Cksum.step]; cases Cksum.ofText U s <;> rfl
  | insertBytes a b | insertRaw a v | remove a | getBytes a | getRaw a | algorithms | iter => rfl
  | text =>
    simp only [Cksum.step, toText_eq]
    cases c.all fun kv => hexOk kv.2 <;> rfl
  | roundTrip =>
    simp only [Cksum.step, toText_eq]
    cases c.all fun kv => hexOk kv.2
    · rfl
    · rw [if_pos rfl]
      dsimp only
      cases Cksum.ofText U _ <;> rfl

theorem empty_checksum_text : Cksum.toText [] = .ok [] := toText_nil

/-- the builder's own calls: none panics (the typed calls use keys of the translated table, all valid) -/
theorem known_keys_valid : ∀ k ∈ knownKeys, isValidKey k = true := by decide

/-- the harness's user-defined typed keys: "Arch" and "Repository_URL" are valid (mixed case), "a b"
is not — the typed setters on it are the documented panic, lookups and removal simply find nothing -/
theorem custom_keys : isValidKey (knownKey 7) = true ∧ isValidKey (knownKey 8) = true ∧
    isValidKey (knownKey 9) = false := by decide

theorem checksum_key_valid : isValidKey checksumKey = true := checksumKey_valid

/-- `Qualifiers::search` calls std's `binary_search_by`, whose loop reads the slice with `get_unchecked`
(out of range: undefined behaviour, not a panic) and whose comparator is `partial_cmp(..).unwrap()`.
Under the invariant (C11: every reachable collection) the algorithm as std implements it
(PurlModel/BinSearch.lean) reads only in range and the `unwrap` never fires. -/
theorem binary_search_in_bounds (q : Quals) (hq : QInv q) (mk : MixedKey) :
    (q.searchBin U mk).isPanic = false := by
  rw [searchBin_eq_search U hq.1 mk]
  unfold Quals.search
  rw [searchFrom_eq U mk.asRef _ rfl]
  rfl

/-- … and for any total comparison on any slice, sorted or not, the window `[base, base + size)` of std's
loop never leaves the slice -/
theorem binary_search_loop_in_range {α : Type} (c : α → Ordering) (l : List α) :
    ∀ size base, 1 ≤ size → base + size ≤ l.length →
      ∃ b, bsLoop (fun a => some (c a)) l size base = .ok b ∧ b < l.length := fun size base hs hb =>
  let ⟨b, e, hl, _⟩ := bsLoop_rule c l (fun _ _ => True) (fun _ _ _ _ _ _ => trivial) size base hs hb trivial
  ⟨b, e, hl⟩

/-- instantiation at the linked tables -/
theorem parse_never_panics_rust (s : Str) : (parseS rustUnicode s).isPanic = false :=
  parse_never_panics rustUnicode stringShape s ()

end Purl.C06
