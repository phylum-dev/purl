/-
  C18 — combined names split and join at the ecosystem separator.

  The per-type separator and side (`combinedSplit`, `combinedJoin`) are translated from the
  `match package_type` arms of lib.rs on every run.
-/
import PurlModel.Purl
import PurlModel.Lemmas.Split
namespace Purl.C18
open Purl Purl.Generated

/-- which rule a type follows, as documented -/
inductive Rule where
  | whole            -- cargo, gem, nuget, pypi: the whole string is the name
  | lastSlash        -- golang, npm: everything after the last '/'
  | firstColon       -- maven: everything after the first ':'
  deriving DecidableEq

def ruleOf : PkgType → Rule
  | .Golang | .Npm => .lastSlash
  | .Maven => .firstColon
  | _ => .whole

/-- the translated table is the documented one, and split and join use the same separator -/
theorem table_is_documented (t : PkgType) :
    (ruleOf t = .whole → t.combinedSplit.1 = 0 ∧ t.combinedJoin = none) ∧
    (ruleOf t = .lastSlash → t.combinedSplit = (1, '/') ∧ t.combinedJoin = some '/') ∧
    (ruleOf t = .firstColon → t.combinedSplit = (2, ':') ∧ t.combinedJoin = some ':') := by
  cases t <;> decide

/-- golang, npm: everything after the last '/' is the name, the rest the namespace -/
theorem split_last_slash (t : PkgType) (h : ruleOf t = .lastSlash) (a b : Str) (hb : '/' ∉ b) :
    builderWithCombinedName t (a ++ '/' :: b) = ⟨t, { name := b, ns := a }⟩ := by
  obtain ⟨_, slash, _⟩ := table_is_documented t
  simp only [builderWithCombinedName, (slash h).1, rsplitOnce_append a hb]

/-- maven: everything after the first ':' is the name -/
theorem split_first_colon (t : PkgType) (h : ruleOf t = .firstColon) (a b : Str) (ha : ':' ∉ a) :
    builderWithCombinedName t (a ++ ':' :: b) = ⟨t, { name := b, ns := a }⟩ := by
  obtain ⟨_, _, colon⟩ := table_is_documented t
  simp only [builderWithCombinedName, (colon h).1, splitOnce_append b ha]

/-- no separator: the whole string is the name and no namespace is set -/
theorem split_no_separator (t : PkgType) (s : Str)
    (h : ruleOf t = .whole ∨ (ruleOf t = .lastSlash ∧ '/' ∉ s) ∨ (ruleOf t = .firstColon ∧ ':' ∉ s)) :
    builderWithCombinedName t s = ⟨t, { name := s }⟩ := by
  obtain ⟨whole, slash, colon⟩ := table_is_documented t
  unfold builderWithCombinedName
  rcases h with h | ⟨h, hs⟩ | ⟨h, hs⟩
  · -- the table fixes the first component only; with `0` there the match falls through to its last arm
    rw [show t.combinedSplit = (0, t.combinedSplit.2) from Prod.ext (whole h).1 rfl]
    rfl
  · simp only [(slash h).1, rsplitOnce_none_of_not_mem hs]
  · simp only [(colon h).1, splitOnce_none_of_not_mem hs]

/-- nothing precedes the separator: the namespace is reported as absent -/
theorem split_empty_prefix (t : PkgType) (b : Str)
    (h : (ruleOf t = .lastSlash ∧ '/' ∉ b) ) :
    (builderWithCombinedName t ('/' :: b)).namespace = none ∧ (builderWithCombinedName t ('/' :: b)).parts.name = b := by
  rw [show '/' :: b = [] ++ '/' :: b from rfl, split_last_slash t h.1 [] b h.2]
  exact ⟨rfl, rfl⟩

/-- feeding `combined_name()` back reproduces namespace and name, under the stated side condition -/
theorem combined_roundtrip (p : GPurl PkgType)
    (hside : (ruleOf p.ty = .lastSlash → '/' ∉ p.parts.name) ∧
             (ruleOf p.ty = .firstColon → p.parts.ns ≠ [] ∧ ':' ∉ p.parts.ns) ∧
             (ruleOf p.ty = .whole → p.parts.ns = [])) :
    (builderWithCombinedName p.ty (combinedName p)).namespace = p.namespace ∧
    (builderWithCombinedName p.ty (combinedName p)).parts.name = p.parts.name := by
  obtain ⟨t, parts⟩ := p
  obtain ⟨noSlash, nsColon, nsWhole⟩ := hside
  obtain ⟨whole, slash, colon⟩ := table_is_documented t
  dsimp only at noSlash nsColon nsWhole ⊢
  have hcn : ∀ sep, t.combinedJoin = some sep →
      combinedName ⟨t, parts⟩ = if parts.ns = [] then parts.name else parts.ns ++ sep :: parts.name := by
    intro sep hj
    cases hns : parts.ns <;> simp [combinedName, hj, GPurl.namespace, hns, optStr]
  cases hr : ruleOf t with
  | whole =>
    have : combinedName ⟨t, parts⟩ = parts.name := by simp [combinedName, (whole hr).2]
    rw [this, split_no_separator t parts.name (.inl hr)]
    simp [GPurl.namespace, nsWhole hr, optStr]
  | lastSlash =>
    rw [hcn '/' (slash hr).2]
    by_cases hns : parts.ns = []
    · rw [if_pos hns, split_no_separator t parts.name (.inr (.inl ⟨hr, noSlash hr⟩))]
      simp [GPurl.namespace, hns, optStr]
    · rw [if_neg hns, split_last_slash t hr parts.ns parts.name (noSlash hr)]
      simp [GPurl.namespace]
  | firstColon =>
    obtain ⟨hne, hc⟩ := nsColon hr
    rw [hcn ':' (colon hr).2, if_neg hne, split_first_colon t hr parts.ns parts.name hc]
    simp [GPurl.namespace]

example : builderWithCombinedName .Golang "github.com/a/b".toList = ⟨.Golang, { name := "b".toList, ns := "github.com/a".toList }⟩ := by decide +kernel
example : builderWithCombinedName .Maven "g:a:b".toList = ⟨.Maven, { name := "a:b".toList, ns := "g".toList }⟩ := by decide +kernel
example : builderWithCombinedName .Cargo "a/b:c".toList = ⟨.Cargo, { name := "a/b:c".toList }⟩ := by decide +kernel

end Purl.C18
