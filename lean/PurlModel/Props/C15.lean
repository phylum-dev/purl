/-
  C15 — package type names map one-to-one, case-insensitively.

  The variants, the `phf_map!` keys, the `name()` arms and the serde renaming are translated
  from package_type.rs on every run; the facts about that table are decided by the kernel.
  The lookup `UniCase::new(s)` vs `UniCase::ascii(key)` is modelled from unicase 2.6.0:
  ASCII probe → `eq_ignore_ascii_case`, otherwise equality of the folded character streams
  (fold table dumped from the linked crate over all scalar values).
-/
import PurlModel.Purl
import PurlModel.Lemmas.Unicode
import PurlModel.Lemmas.Order
import PurlModel.Lemmas.RustUnicode
namespace Purl.C15
open Purl Purl.Generated

/-- one lower-case name per type; `name()`, the phf key, the PURL type string and the serde form
all read the same string; names are pairwise distinct; each type has exactly one key.
`typeNameLetters` (PurlModel/Unicode.lean, where the law `LawfulUnicode.fold_nonascii` speaks of it) is
written by hand: the conjunct about it is what ties it to the translated names. -/
theorem table_consistent :
    (∀ t ∈ PkgType.all, asciiLower t.name = t.name ∧ t.serdeName = t.name ∧ isValidType t.name = true ∧
        (∀ c ∈ t.name, c ∈ typeNameLetters)) ∧
    (phfTable.map (·.2) = PkgType.all) ∧
    (∀ e ∈ phfTable, e.1 = e.2.name) ∧
    ((PkgType.all.map PkgType.name).Nodup) := by
  decide +kernel

theorem all_complete (t : PkgType) : t ∈ PkgType.all := by cases t <;> decide

theorem name_lower (t : PkgType) : asciiLower t.name = t.name := (table_consistent.1 t (all_complete t)).1

theorem name_valid (t : PkgType) : isValidType t.name = true := (table_consistent.1 t (all_complete t)).2.2.1

theorem serdeName_eq (t : PkgType) : t.serdeName = t.name := (table_consistent.1 t (all_complete t)).2.1

theorem name_letters (t : PkgType) : ∀ c ∈ t.name, c ∈ typeNameLetters := (table_consistent.1 t (all_complete t)).2.2.2

theorem phf_key {e : Str × PkgType} (he : e ∈ phfTable) : e.1 = e.2.name := table_consistent.2.2.1 e he

theorem name_injective : ∀ a b : PkgType, a.name = b.name → a = b := fun a b =>
  eq_of_nodup_map table_consistent.2.2.2 (all_complete a) (all_complete b)

variable (U : UnicodeOps) [LawfulUnicode U]

theorem names_ascii (t : PkgType) : ∀ c ∈ t.name, isAscii c = true := fun c hc =>
  typeNameLetters_ascii c (name_letters t c hc)

theorem unicaseEq_name_iff (s : Str) (t : PkgType) : unicaseEq U s t.name = true ↔ asciiLower s = t.name := by
  unfold unicaseEq
  cases hs : s.all isAscii with
  | true => simp only [if_true, eqIgnoreAsciiCase, beq_iff_eq, name_lower t]
  | false =>
    -- a probe with a non-ASCII char `c` is equal to no name, on either side
    obtain ⟨c, hc, hna⟩ : ∃ c ∈ s, isAscii c = false := by simpa using hs
    simp only [Bool.false_eq_true, if_false, beq_iff_eq,
      flatMap_eq_asciiLower LawfulUnicode.fold_ascii (names_ascii t), name_lower t]
    refine iff_of_false (fun e => ?_) fun e => ?_
    · -- `c` folds to something containing a char that is in no type name
      obtain ⟨d, hd, hnot⟩ := LawfulUnicode.fold_nonascii (U := U) c hna
      exact hnot (name_letters t d (e ▸ List.mem_flatMap.2 ⟨c, hc, hd⟩))
    · -- `asciiLower` keeps `c`, which is not ASCII, while every char of a name is
      have := names_ascii t _ (e ▸ List.mem_map.2 ⟨c, hc, rfl⟩ : asciiLowerChar c ∈ t.name)
      rw [asciiLowerChar_nonascii hna, hna] at this
      cases this

/-- parsing a name in any mixture of letter case returns the type … -/
theorem lookup_anycase (s : Str) (t : PkgType) (h : asciiLower s = t.name) : PkgType.ofStr U s = some t := by
  obtain ⟨-, hall, -, hnd⟩ := table_consistent
  obtain ⟨e, he, rfl⟩ := List.mem_map.1 (hall ▸ all_complete t : t ∈ phfTable.map (·.2))
  unfold PkgType.ofStr
  -- names are distinct, and an entry unicase-equal to s has the name `asciiLower s`: it is the entry of t
  rw [find?_eq_some_of_nodup_key (f := fun e => e.2.name) (k := asciiLower s) ?_ ?_ he ?_]
  · rfl
  · intro x hx hu
    rw [phf_key hx, unicaseEq_name_iff] at hu
    exact hu.symm
  · rw [← hall, List.map_map] at hnd
    exact hnd
  · rw [phf_key he, unicaseEq_name_iff]
    exact h

/-- … and conversely any string that parses to a type equals its name once ASCII-lower-cased:
no longer, shorter, padded or non-ASCII look-alike string is taken for a known type -/
theorem lookup_sound (s : Str) (t : PkgType) (h : PkgType.ofStr U s = some t) : asciiLower s = t.name := by
  unfold PkgType.ofStr at h
  simp only [Option.map_eq_some_iff] at h
  obtain ⟨e, he, rfl⟩ := h
  have hp := List.find?_some he
  rw [phf_key (List.mem_of_find?_eq_some he)] at hp
  exact (unicaseEq_name_iff U s e.2).1 hp

theorem lookup_iff (s : Str) (t : PkgType) : PkgType.ofStr U s = some t ↔ asciiLower s = t.name :=
  ⟨lookup_sound U s t, lookup_anycase U s t⟩

/-- with the tables of the linked std / unicase -/
theorem lookup_iff_rust (s : Str) (t : PkgType) : PkgType.ofStr rustUnicode s = some t ↔ asciiLower s = t.name :=
  lookup_iff rustUnicode s t

/-! ### non-vacuity: a look-alike is refused, a case variant accepted -/
example : PkgType.ofStr rustUnicode ['M', 'a', 'V', 'e', 'N'] = some .Maven := by decide +kernel
example : PkgType.ofStr rustUnicode ['n', 'p', 'ｍ'] = none := by decide +kernel
example : PkgType.ofStr rustUnicode ['g', 'o', 'l', 'a', 'n', 'g', 'c', 'i'] = none := by decide +kernel

end Purl.C15
