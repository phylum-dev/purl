/-
  C19 — equality, hashing and ordering agree with the canonical string.

  Rust's `==` on `GenericPurl` is the derived `PartialEq`, which on `Qualifiers` goes through the
  hand-written case-insensitive `QualifierKey == QualifierKey` (`rustEqPurl`); `cmp` is the derived
  lexicographic `Ord` (`cmpPurl`); `Hash` is derived, i.e. a function of the value.
-/
import PurlModel.Lemmas.Utf8Order
import PurlModel.Lemmas.RustOrd
import PurlModel.Lemmas.RoundTrip
import PurlModel.Lemmas.RustUnicode
import PurlModel.Props.C15
namespace Purl.C19
open Purl Purl.Generated

variable (U : UnicodeOps) [LawfulUnicode U]

/-- the hand-written key comparison makes the derived `==` coincide with equality of values
(on values whose keys are canonical, which every handed-out value's are) -/
theorem eq_is_structural_string (a b : GPurl Str) (hb : QInv b.parts.quals) :
    rustEqPurl U (· == ·) a b = true ↔ a = b :=
  rustEqPurl_iff U (fun _ _ => beq_iff_eq) a b hb

theorem eq_is_structural_typed (a b : GPurl PkgType) (hb : QInv b.parts.quals) :
    rustEqPurl U (fun x y => decide (x = y)) a b = true ↔ a = b :=
  rustEqPurl_iff U (fun _ _ => decide_eq_true_iff) a b hb

/-- two values (parsed or built, String type parameter) are equal exactly when their canonical
strings are equal -/
theorem equal_iff_same_string (a b : GPurl Str) (ha : Built U a) (hb : Built U b)
    (hta : isValidType a.ty = true) (htb : isValidType b.ty = true) :
    a = b ↔ formatParts a.ty a.parts = formatParts b.ty b.parts := by
  constructor
  · rintro rfl; rfl
  · intro h
    obtain ⟨h1, h2⟩ := formatParts_inj U a.ty b.ty a.parts b.parts hta htb ha.quals_inv hb.quals_inv ha.vals_ne hb.vals_ne h
    exact GPurl.ext h1 h2

/-- the same for the built-in package-type enum -/
theorem equal_iff_same_string_typed (a b : GPurl PkgType) (ha : Built U a) (hb : Built U b) :
    a = b ↔ formatParts a.ty.name a.parts = formatParts b.ty.name b.parts := by
  constructor
  · rintro rfl; rfl
  · intro h
    have hta := C15.name_valid a.ty
    have htb := C15.name_valid b.ty
    obtain ⟨h1, h2⟩ := formatParts_inj U a.ty.name b.ty.name a.parts b.parts hta htb ha.quals_inv hb.quals_inv
      ha.vals_ne hb.vals_ne h
    exact GPurl.ext (C15.name_injective _ _ h1) h2

/-- every parsed / built value satisfies the hypotheses above -/
theorem parsed_is_built (s : Str) (p : GPurl Str) (h : parseS U s = .ok p) : Built U p ∧ isValidType p.ty = true :=
  ⟨parseS_built U h, (parseS_wf U h).type_valid⟩

theorem built_is_built (b p : GPurl Str) (hq : QInv b.parts.quals) (h : buildS U b = .ok p) :
    Built U p ∧ isValidType p.ty = true := by
  obtain ⟨h1, _, h3, _⟩ := buildS_props U hq h
  exact ⟨h1, h3⟩

/-- a total order in which two values compare as equal exactly when they are equal -/
theorem ordering_total_string : IsOrd (cmpPurl cmpStr) := isOrd_cmpPurl isOrd_cmpStr
theorem ordering_total_typed : IsOrd (cmpPurl cmpPkgType) := isOrd_cmpPurl isOrd_cmpPkgType

theorem cmp_eq_iff_eq (a b : GPurl Str) : cmpPurl cmpStr a b = .eq ↔ a = b := ordering_total_string.eq_iff a b

/-- `str::cmp` — what `Ord` of `String`, `SmartString` and `QualifierKey` runs, and what the derived `Ord` of
the parts is built from — compares the UTF-8 bytes; the model's `cmpStr` compares scalar values.  The two
agree (UTF-8 is order-preserving), so the theorems above are about the order the compiled code computes. -/
theorem str_cmp_is_code_point_order (a b : Str) : cmpBytes (utf8 a) (utf8 b) = cmpStr a b :=
  cmpBytes_utf8 a b

/-- e.g. `z` < U+00E9 (bytes C3 A9) < U+4E2D (bytes E4 B8 AD), byte-wise and by scalar value alike -/
example : cmpBytes (utf8 ['z']) (utf8 ['é']) = .lt ∧ cmpBytes (utf8 ['é']) (utf8 ['中']) = .lt ∧
    cmpStr ['z'] ['é'] = .lt ∧ cmpStr ['é'] ['中'] = .lt := by decide +kernel

/-- the derived `Hash` feeds the hasher with a function of the value: equal values, equal input -/
def hashStream {τ : Type} (tyStream : τ → List Str) (p : GPurl τ) : List Str :=
  tyStream p.ty ++ [p.parts.ns, p.parts.name, p.parts.version] ++ (p.parts.quals.flatMap fun kv => [kv.1, kv.2]) ++ [p.parts.subpath]

theorem equal_values_hash_alike {τ : Type} (tyStream : τ → List Str) (a b : GPurl τ) (h : a = b) :
    hashStream tyStream a = hashStream tyStream b := by rw [h]

/-- without '&' in the qualifier-value escape set two different values would print the same string -/
theorem amp_escaped : qvalueEsc ('&' : Char).toNat.toUInt8 = true := by decide

theorem equal_iff_same_string_rust (a b : GPurl Str) (ha : Built rustUnicode a) (hb : Built rustUnicode b)
    (hta : isValidType a.ty = true) (htb : isValidType b.ty = true) :
    a = b ↔ formatParts a.ty a.parts = formatParts b.ty b.parts :=
  equal_iff_same_string rustUnicode a b ha hb hta htb

end Purl.C19
