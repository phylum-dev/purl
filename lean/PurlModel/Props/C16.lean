/-
  C16 — the serde form is exactly the string form.

  The theorems are about `Serialize` / `Deserialize` as the library implements them over an abstract
  value of serde's data model, and about serde_json's string layer as modelled in PurlModel/JsonText.lean
  (escaping on output, unescaping incl. \u and surrogate pairs on input).  That model is hand-written and
  tied to the real crate only by the correspondence run (harness built with `--features serde`); its
  dispatch of other value kinds is not modelled beyond "not a string".
-/
import PurlModel.Serde
import PurlModel.Lemmas.JsonText
import PurlModel.Props.C01
namespace Purl.C16
open Purl Purl.Generated

variable (U : UnicodeOps) [LawfulUnicode U]

/-- serialising produces exactly the canonical string, as a single string value -/
theorem ser_is_canonical_string {τ : Type} (typeStr : τ → Str) (p : GPurl τ) (s : Str)
    (h : display typeStr p = .ok s) : ser typeStr p = .ok (.str s) := by
  simp [ser, h]

/-- deserialising a string value succeeds exactly when parsing that string succeeds, with the same value -/
theorem de_str_iff_parse {τ ε : Type} (parse : Str → Res ε (GPurl τ)) (s : Str) (p : GPurl τ) :
    de parse (.str s) = .ok p ↔ parse s = .ok p := by
  simp only [de]
  cases parse s with
  | ok q => simp
  | error f => cases f <;> simp

/-- values that are not strings are refused -/
theorem de_nonstring_refused {τ ε : Type} (parse : Str → Res ε (GPurl τ)) (v : Json) (h : ∀ s, v ≠ .str s) :
    de parse v = .error (.err .invalidType) := by
  cases v with
  | str s => exact absurd rfl (h s)
  | _ => rfl

/-- serialise, write the document, read the document, deserialise: whenever `display` gives a string that
`parse` takes back to the value.  C01 provides both for `String` and for `PackageType`. -/
theorem json_document_roundtrip {τ ε : Type} (typeStr : τ → Str) (parse : Str → Res ε (GPurl τ)) (p : GPurl τ)
    (cs : Str) (h1 : display typeStr p = .ok cs) (h2 : parse cs = .ok p) :
    ser typeStr p = .ok (.str cs) ∧ jsonDoc (jsonQuote cs) = some (.str cs) ∧
      ∀ v, jsonDoc (jsonQuote cs) = some v → de parse v = .ok p := by
  refine ⟨ser_is_canonical_string typeStr p _ h1, jsonDoc_jsonQuote _, fun v hv => ?_⟩
  rw [jsonDoc_jsonQuote] at hv
  cases hv
  rw [de_str_iff_parse]; exact h2

/-- a PURL survives the round trip unchanged (String and PackageType) -/
theorem json_roundtrip_string (s : Str) (p : GPurl Str) (h : parseS U s = .ok p) :
    ∃ v, ser id p = .ok v ∧ de (parseS U) v = .ok p := by
  obtain ⟨h1, h2⟩ := C01.roundtrip_string U s p h
  obtain ⟨e1, e2, e3⟩ := json_document_roundtrip id (parseS U) p _ h1 h2
  exact ⟨_, e1, e3 _ e2⟩

theorem json_roundtrip_typed (s : Str) (p : GPurl PkgType) (h : parseP U s = .ok p) :
    ∃ v, ser PkgType.name p = .ok v ∧ de (parseP U) v = .ok p := by
  obtain ⟨h1, h2⟩ := C01.roundtrip_typed U s p h
  obtain ⟨e1, e2, e3⟩ := json_document_roundtrip PkgType.name (parseP U) p _ h1 h2
  exact ⟨_, e1, e3 _ e2⟩

/-- the text layer: the JSON document written for a string value is read back as that value, for every
string (quotes, backslashes, control characters, any Unicode) -/
theorem json_text_roundtrip (cs : Str) : jsonDoc (jsonQuote cs) = some (.str cs) := jsonDoc_jsonQuote cs

/-- a PURL survives a JSON round trip, text included (String and PackageType) -/
theorem json_document_roundtrip_string (s : Str) (p : GPurl Str) (h : parseS U s = .ok p) :
    ∃ cs, ser id p = .ok (.str cs) ∧ jsonDoc (jsonQuote cs) = some (.str cs) ∧
      ∀ v, jsonDoc (jsonQuote cs) = some v → de (parseS U) v = .ok p := by
  obtain ⟨h1, h2⟩ := C01.roundtrip_string U s p h
  exact ⟨_, json_document_roundtrip id (parseS U) p _ h1 h2⟩

theorem json_document_roundtrip_typed (s : Str) (p : GPurl PkgType) (h : parseP U s = .ok p) :
    ∃ cs, ser PkgType.name p = .ok (.str cs) ∧ jsonDoc (jsonQuote cs) = some (.str cs) ∧
      ∀ v, jsonDoc (jsonQuote cs) = some v → de (parseP U) v = .ok p := by
  obtain ⟨h1, h2⟩ := C01.roundtrip_typed U s p h
  exact ⟨_, json_document_roundtrip PkgType.name (parseP U) p _ h1 h2⟩

/-! non-vacuity of the text layer: a string with every escape class -/
set_option maxRecDepth 100000 in
example : jsonQuote "a\"b\\c\n\x01é".toList = "\"a\\\"b\\\\c\\n\\u0001é\"".toList := by decide +kernel
example : jsonDoc [' ', '"', '\\', 'u', 'd', '8', '3', 'd', '\\', 'u', 'd', 'e', '0', '0', '\\', '/', '"', '\n'] = some (.str ['😀', '/']) := by
  decide +kernel

/-- the serde name of each package type is its name -/
theorem pkg_type_serde_name (t : PkgType) : t.serdeName = t.name := C15.serdeName_eq t

end Purl.C16
