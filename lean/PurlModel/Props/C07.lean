/-
  C07 — namespace and subpath structure cannot be forged or climb upwards.
-/
import PurlModel.Lemmas.Rebuild
import PurlModel.Lemmas.RustUnicode
import PurlModel.Lemmas.PctComplete
namespace Purl.C07
open Purl Purl.Generated

variable (U : UnicodeOps) [LawfulUnicode U]

/-- the namespace decoder: the result is the decoded non-empty pieces between raw '/' (`nsDecoded`),
joined by '/'; every reported segment is non-empty and free of '/' — an escape can neither split
nor join segments (a piece that decodes to something containing '/' is refused) -/
theorem namespace_segments (s ns : Str) (h : decodeNamespace s = .ok ns) :
    ∃ ds, nsDecoded (splitOn '/' (trimMatches '/' s)) = .ok ds ∧ ns = joinWith '/' ds ∧
      (∀ d ∈ ds, d ≠ [] ∧ '/' ∉ d) ∧ (ds ≠ [] → splitOn '/' ns = ds) := by
  obtain ⟨ds, h1, h2, h3⟩ := decodeNamespace_spec h
  refine ⟨ds, h1, h2, h3, ?_⟩
  intro hne
  rw [h2]
  exact splitOn_joinWith hne (fun p hp => (h3 p hp).2)

/-- the subpath decoder: the decoded pieces other than raw "", ".", ".."; no reported segment is
empty, ".", ".." or contains '/', whether it was written raw, percent-encoded or partly encoded -/
theorem subpath_segments (s sub : Str) (h : decodeSubpath s = .ok sub) :
    ∃ ds, subDecoded (splitOn '/' (trimMatches '/' s)) = .ok ds ∧ sub = joinWith '/' ds ∧
      (∀ d ∈ ds, d ≠ [] ∧ '/' ∉ d ∧ d ≠ ['.'] ∧ d ≠ ['.', '.']) ∧ (ds ≠ [] → splitOn '/' sub = ds) := by
  obtain ⟨ds, h1, h2, h3⟩ := decodeSubpath_spec h
  refine ⟨ds, h1, h2, h3, ?_⟩
  intro hne
  rw [h2]
  exact splitOn_joinWith hne (fun p hp => (h3 p hp).2.1)

/-- The namespace decoder, exactly: the reported namespace is `segs` joined by '/' iff the pieces between
the raw '/' of the input (after trimming) are, one for one, either empty (skipped) or a spelling
(`PctSpx`: raw chars, whole chars escaped, stray '%') of a segment that contains no '/'. -/
theorem namespace_segments_exactly (s ns : Str) :
    decodeNamespace s = .ok ns ↔
      ∃ segs, NsSpx segs (splitOn '/' (trimMatches '/' s)) ∧ ns = joinWith '/' segs := by
  constructor
  · intro h
    obtain ⟨ds, h1, h2, _⟩ := decodeNamespace_spec h
    exact ⟨ds, (nsDecoded_iff _ _).1 h1, h2⟩
  · rintro ⟨segs, h, rfl⟩
    rw [decodeNamespace_eq, (nsDecoded_iff _ _).2 h]
    rfl

/-- The subpath decoder, exactly: as for the namespace, with raw "", "." and ".." pieces skipped and every
other piece spelling a segment that is not ".", ".." and contains no '/' -/
theorem subpath_segments_exactly (s sub : Str) :
    decodeSubpath s = .ok sub ↔
      ∃ segs, SubSpx segs (splitOn '/' (trimMatches '/' s)) ∧ sub = joinWith '/' segs := by
  constructor
  · intro h
    obtain ⟨ds, h1, h2, _⟩ := decodeSubpath_spec h
    exact ⟨ds, (subDecoded_iff _ _).1 h1, h2⟩
  · rintro ⟨segs, h, rfl⟩
    rw [decodeSubpath_eq, (subDecoded_iff _ _).2 h]
    rfl

/-- a piece that decodes to a dot segment or to something containing '/' is refused, not skipped -/
theorem encoded_dot_or_slash_refused (seg d : Str) (rest : List Str) (acc : Str)
    (hraw : isDotSeg seg = false) (hd : decode seg = .ok d) (hbad : badSubSeg d = true) :
    subpathSegs (seg :: rest) acc = .error .invalidEscape := by
  simp [subpathSegs, hraw, hd, hbad]

/-- for every accepted string: the namespace has no empty segment and no leading or trailing '/',
the subpath has no empty, "." or ".." segment -/
theorem accepted_paths_confined (s : Str) (p : GPurl Str) (h : parseS U s = .ok p) :
    (p.parts.ns ≠ [] → ∀ seg ∈ splitOn '/' p.parts.ns, seg ≠ []) ∧
    (p.parts.subpath ≠ [] → ∀ seg ∈ splitOn '/' p.parts.subpath, seg ≠ [] ∧ seg ≠ ['.'] ∧ seg ≠ ['.', '.']) := by
  have wf := Purl.parseS_wf U h
  have key : ∀ {s : Str} {ds : List Str}, s = joinWith '/' ds → s ≠ [] → (∀ d ∈ ds, '/' ∉ d) →
      splitOn '/' s = ds := by
    intro s ds e hne hd
    have hds : ds ≠ [] := by rintro rfl; exact hne e
    rw [e, splitOn_joinWith hds hd]
  constructor
  · intro hne seg hs
    obtain ⟨ds, e, hp⟩ := wf.ns_wf
    rw [key e hne fun d hd => (hp d hd).2] at hs
    exact (hp seg hs).1
  · intro hne seg hs
    obtain ⟨ds, e, hp⟩ := wf.sub_wf
    rw [key e hne fun d hd => (hp d hd).2.1] at hs
    obtain ⟨hne', _, hdot, hdots⟩ := hp seg hs
    exact ⟨hne', hdot, hdots⟩

/-- the typed parser's namespace and subpath are those of the same decoders (its hook only
touches the name) -/
theorem accepted_paths_confined_typed (s : Str) (p : GPurl PkgType) (h : parseP U s = .ok p) :
    NsWF p.parts.ns ∧ SubWF p.parts.subpath := by
  obtain ⟨_, hns, hsub, _⟩ := parseP_props U h
  exact ⟨hns, hsub⟩

/-! ### non-vacuity: the classic climbing attempt `#%2e%2e/x` is refused -/
example : subpathSegs [['%', '2', 'e', '%', '2', 'e'], ['x']] [] = .error .invalidEscape :=
  encoded_dot_or_slash_refused ['%', '2', 'e', '%', '2', 'e'] ['.', '.'] [['x']] [] (by decide +kernel)
    (decode_of_bytes (by decide +kernel)) (by decide +kernel)

example : decode ['a', '%', '2', 'f', 'b'] = .ok ['a', '/', 'b'] := decode_of_bytes (by decide +kernel)

theorem accepted_paths_confined_rust (s : Str) (p : GPurl Str) (h : parseS rustUnicode s = .ok p) :
    (p.parts.ns ≠ [] → ∀ seg ∈ splitOn '/' p.parts.ns, seg ≠ []) ∧
    (p.parts.subpath ≠ [] → ∀ seg ∈ splitOn '/' p.parts.subpath, seg ≠ [] ∧ seg ≠ ['.'] ∧ seg ≠ ['.', '.']) :=
  accepted_paths_confined rustUnicode s p h

end Purl.C07
