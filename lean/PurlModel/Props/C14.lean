/-
  C14 — user-supplied package types: call protocol and post-hook validation.

  A user-supplied `PurlShape + FromStr` implementation is any `Shape τ ε σ` (arbitrary functions
  with arbitrary internal state `σ`).  `logShape S` wraps it with a call log; the theorems hold
  for every `S`, every initial state and every input — that is the quantification "for all
  implementations of the extension trait".
-/
import PurlModel.Lemmas.PiecesComplete
namespace Purl.C14
open Purl Purl.Generated

inductive Call (τ : Type) where
  | conv (arg : Str)
  | fin (ty : τ) (parts : Parts)

/-- any shape, instrumented with a log of the calls made to it -/
def logShape {τ ε σ : Type} (S : Shape τ ε σ) : Shape τ ε (σ × List (Call τ)) where
  fromStr s st := ((S.fromStr s st.1).1, ((S.fromStr s st.1).2, st.2 ++ [.conv s]))
  finish ty parts st := ((S.finish ty parts st.1).1, ((S.finish ty parts st.1).2, st.2 ++ [.fin ty parts]))
  typeStr := S.typeStr
  lift := S.lift

set_option linter.unusedSectionVars false
variable {τ ε σ : Type} (U : UnicodeOps) [LawfulUnicode U] (S : Shape τ ε σ)

/-- Call protocol of a parse: no call at all; or exactly one conversion (which failed, or after
which a generic check failed); or one conversion that succeeded followed by exactly one hook
call.  The conversion's argument is a syntactically valid type string, and it is the type
substring `parsePre` isolated. -/
theorem parse_protocol (s : Str) (st : σ) :
    (parseWith U (logShape S) s (st, [])).2.2 = [] ∨
    (∃ a rest parts, parsePre U s = .ok (a, rest, parts) ∧ isValidType a = true ∧
      ((parseWith U (logShape S) s (st, [])).2.2 = [.conv a] ∨
       (∃ t parts', (S.fromStr a st).1 = .ok t ∧
          (parseWith U (logShape S) s (st, [])).2.2 = [.conv a, .fin t parts']))) := by
  unfold parseWith
  cases hp : parsePre U s with
  | error f => left; rfl
  | ok x =>
    obtain ⟨a, rest, parts⟩ := x
    right
    refine ⟨a, rest, parts, rfl, (parsePre_ok U hp).1, ?_⟩
    dsimp only [logShape]
    cases hc : (S.fromStr a st).1 with
    | error e => left; rfl
    | ok t =>
      dsimp only
      cases hq : parsePost rest parts with
      | error e => left; rfl
      | ok parts' =>
        right
        refine ⟨t, parts', rfl, ?_⟩
        dsimp only [buildWith]
        cases (S.finish t parts' (S.fromStr a st).2).1 <;> rfl

/-- the type substring is passed exactly as written: it sits between `pkg:` + leading slashes and
the first '/' after it -/
theorem conversion_argument_is_the_type_substring (s a rest : Str) (parts : Parts)
    (h : parsePre U s = .ok (a, rest, parts)) :
    ∃ s1 tail, stripPrefix schemePrefix s = some s1 ∧
      (∃ body, splitOnce '/' body = some (a, rest) ∧ '/' ∉ a ∧
        trimStart '/' s1 = body ++ tail) := by
  obtain ⟨s1, s2, s3, sub, q, h1, h2, h3, h4, _, _⟩ := (parsePre_ok_iff U).1 h
  -- s3 is a prefix of s2, which is a prefix of trimStart '/' s1
  obtain ⟨o1, e1, _⟩ := splitSubpath_shape h2
  obtain ⟨o2, e2, _⟩ := splitQuals_shape U h3
  exact ⟨s1, sfx '?' o2 ++ sfx '#' o1, h1, s3, h4, (splitOnce_eq_some h4).2, by rw [e1, e2, List.append_assoc]⟩

/-- an error from the conversion is returned unchanged and no PURL is produced -/
theorem conversion_error_unchanged (s a rest : Str) (parts : Parts) (st : σ) (e : ε)
    (hp : parsePre U s = .ok (a, rest, parts)) (hc : (S.fromStr a st).1 = .error e) :
    (parseWith U S s st).1 = fail e := by
  rw [parseWith_fst, hp]
  simp only [hc]

/-- exactly one hook call per `build()`, with the builder's type and parts -/
theorem build_protocol (b : GPurl τ) (st : σ) :
    (buildWith U (logShape S) b (st, [])).2.2 = [.fin b.ty b.parts] := by
  unfold buildWith
  dsimp only [logShape]
  cases (S.finish b.ty b.parts st).1 <;> rfl

/-- an error from the hook is returned unchanged and no PURL is produced -/
theorem hook_error_unchanged (b : GPurl τ) (st : σ) (e : ε) (h : (S.finish b.ty b.parts st).1 = .error e) :
    (buildWith U S b st).1 = fail e := by
  rw [buildWith_fst, h]

/-- whatever the hook writes is what the generic checks then see, and what the PURL reports -/
theorem result_is_postFinish_of_hook_output (b : GPurl τ) (st : σ) (t : τ) (ps : Parts)
    (h : (S.finish b.ty b.parts st).1 = .ok (t, ps)) :
    (buildWith U S b st).1 = postFinish U S.lift t ps := by
  rw [buildWith_fst, h]

/-- the generic checks after the hook: an emptied name is refused … -/
theorem emptied_name_refused (t : τ) (ps : Parts) (h : ps.name = []) :
    postFinish U S.lift t ps = fail (S.lift (.missingRequiredField .name)) :=
  postFinish_name_nil U S.lift t h

/-- … empty-valued qualifiers are removed; everything else but the checksum is reported exactly as
the hook wrote it -/
theorem post_hook_result (t : τ) (ps : Parts) (p : GPurl τ) (hq : QInv ps.quals)
    (h : postFinish U S.lift t ps = .ok p) :
    p.ty = t ∧ p.parts.ns = ps.ns ∧ p.parts.name = ps.name ∧ p.parts.version = ps.version ∧
    p.parts.subpath = ps.subpath ∧ (∀ kv ∈ p.parts.quals, kv.2 ≠ []) ∧ QInv p.parts.quals ∧
    (∀ k, k ≠ checksumKey → lookup p.parts.quals k = (lookup ps.quals k).filter (fun v => !v.isEmpty)) := by
  have hb := built_of_postFinish U S.lift hq h
  have hl := fun k hk => postFinish_lookup U S.lift hq h (k := k) hk
  obtain ⟨_, q, _, rfl⟩ := postFinish_eq_ok.1 h
  exact ⟨rfl, rfl, rfl, rfl, rfl, hb.vals_ne, hb.quals_inv, hl⟩

/-- a malformed checksum written by the hook makes the build fail with the checksum's error -/
theorem malformed_checksum_refused (t : τ) (ps : Parts) (hq : QInv ps.quals) (hn : ps.name ≠ []) (text : Str) (e : PErr)
    (hl : lookup (nonEmptyQuals ps.quals) checksumKey = some text) (he : Cksum.ofText U text = .error e) :
    postFinish U S.lift t ps = fail (S.lift e) := by
  rw [postFinish_eq, fixQuals_eq, lookupS_eq_lookup (QInv_nonEmptyQuals hq).1, hl, if_neg (by simpa using hn)]
  simp only [he]
  rfl

end Purl.C14
