/-
  C01 — canonical round trip: parse → format → parse is a fixpoint.

  For every string s (no bound on length, characters, escapes) and each parsable instantiation:
  if the parser accepts s with value p then to_string(p) does not panic and the parser accepts it
  with the same value p (hence ==), which therefore formats to the identical string.

  The proof evaluates the parser on the printed string (Lemmas/RoundTrip.lean).  decode ∘ encode = id
  needs '%' in every escape set, no raw separator inside a component needs '#', '?', '@', '/', '&'
  in the respective sets — all decided on the tables regenerated from format.rs; build() is the
  identity on a value that build() produced.
-/
import PurlModel.Lemmas.RoundTrip
import PurlModel.Lemmas.RustUnicode
import PurlModel.Props.C15
namespace Purl.C01
open Purl Purl.Generated

variable (U : UnicodeOps) [LawfulUnicode U]

/-- GenericPurl<String> -/
theorem roundtrip_string (s : Str) (p : GPurl Str) (h : parseS U s = .ok p) :
    displayS p = .ok (formatParts p.ty p.parts) ∧
    parseS U (formatParts p.ty p.parts) = .ok p := by
  have wf := parseS_wf U h
  refine ⟨?_, parseS_format U p wf (parseS_built U h).cks⟩
  unfold displayS display
  simp [wf.type_valid]

/-- GenericPurl<SmallString>: the same function (C13) -/
theorem roundtrip_small (s : Str) (p : GPurl Str) (h : parseM U s = .ok p) :
    displayS p = .ok (formatParts p.ty p.parts) ∧ parseM U (formatParts p.ty p.parts) = .ok p :=
  roundtrip_string U s p h

/-- Purl = GenericPurl<PackageType> -/
theorem roundtrip_typed (s : Str) (p : GPurl PkgType) (h : parseP U s = .ok p) :
    displayP p = .ok (formatParts p.ty.name p.parts) ∧
    parseP U (formatParts p.ty.name p.parts) = .ok p := by
  obtain ⟨hb, hns, hsub, hf⟩ := parseP_props U h
  have hty : isValidType p.ty.name = true := C15.name_valid p.ty
  constructor
  · unfold displayP display
    simp [hty]
  · have hconv : ∀ st, ((pkgShape U).fromStr ((pkgShape U).typeStr p.ty) st).1 = .ok p.ty := by
      intro st
      dsimp only [pkgShape]
      rw [C15.lookup_anycase U p.ty.name p.ty (C15.name_lower p.ty)]
    exact parseWith_format U (pkgShape U) p hb hty hns hsub hconv hf ()

/-- third clause: the re-parsed value formats to the identical string -/
theorem format_again_identical (s : Str) (p p2 : GPurl Str) (h : parseS U s = .ok p)
    (h2 : parseS U (formatParts p.ty p.parts) = .ok p2) : formatParts p2.ty p2.parts = formatParts p.ty p.parts := by
  have := (roundtrip_string U s p h).2
  rw [this] at h2
  simp at h2
  subst h2
  rfl

/-- the round trip for any well-formed value, however obtained -/
theorem parse_format_wf (p : GPurl Str) (wf : WF p) (hc : CksumFix U p.parts.quals) :
    parseS U (formatParts p.ty p.parts) = .ok p :=
  parseS_format U p wf hc

/-- some of the table facts the proof rests on (the separators in full: `sep_facts`): were one of
these characters missing from its escape set, the build of this file would fail -/
theorem escape_sets_close_the_grammar :
    qvalueEsc ('&' : Char).toNat.toUInt8 = true ∧ qvalueEsc 0x25 = true ∧ nameEsc ('/' : Char).toNat.toUInt8 = true ∧
    namespaceEsc 0x25 = true ∧ subpathEsc ('#' : Char).toNat.toUInt8 = true ∧ versionEsc ('@' : Char).toNat.toUInt8 = true :=
  ⟨qvalueEsc_amp, qvalueEsc_reserved.pct, nameEsc_slash, namespaceEsc_reserved.pct, subpathEsc_reserved.hash,
    versionEsc_reserved.at_⟩

/-- with the tables of the linked std / unicase -/
theorem roundtrip_string_rust (s : Str) (p : GPurl Str) (h : parseS rustUnicode s = .ok p) :
    parseS rustUnicode (formatParts p.ty p.parts) = .ok p :=
  (roundtrip_string rustUnicode s p h).2

theorem roundtrip_typed_rust (s : Str) (p : GPurl PkgType) (h : parseP rustUnicode s = .ok p) :
    parseP rustUnicode (formatParts p.ty.name p.parts) = .ok p :=
  (roundtrip_typed rustUnicode s p h).2

/-! ### non-vacuity: a well-formed value with `&`, `=`, `%` and non-ASCII in a qualifier value -/
example : WF (⟨['t'], { name := ['n'], quals := [(['k'], ['a', '&', 'l', '=', 'c', '%', 'é'])] }⟩ : GPurl Str) where
  type_valid := by decide +kernel
  type_lower := by decide +kernel
  name_ne := by simp
  quals_inv := ⟨by simp [Sorted], by intro kv h; simp at h; subst h; exact ⟨by decide +kernel, by decide +kernel⟩⟩
  vals_ne := by intro kv h; simp at h; subst h; simp
  ns_wf := NsWF_nil
  sub_wf := SubWF_nil

end Purl.C01
