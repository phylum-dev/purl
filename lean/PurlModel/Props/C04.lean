/-
  C04 — every PURL value handed out is valid and normalised.

  * `build_wf` : for every shape (any user-written `finish` that keeps the qualifier collection's
    invariant — which Rust's privacy guarantees, C11) and every builder state, a successful `build()`
    yields a non-empty name, qualifiers with valid lower-case strictly ascending keys and non-empty
    values, each retrievable by its key, and a checksum in canonical form;
  * `parse_wf` : the same for every value returned by the parser;
  * `accessor_never_empty`, `builtin_type_wf`, `pkg_type_wf` : the optional fields and the type.
-/
import PurlModel.Lemmas.Rebuild
import PurlModel.Lemmas.RustUnicode
import PurlModel.Props.C15
namespace Purl.C04
open Purl Purl.Generated

set_option linter.unusedSectionVars false
variable (U : UnicodeOps) [LawfulUnicode U]

/-- the invariants every handed-out value satisfies, whatever the type parameter -/
structure Valid {τ : Type} (p : GPurl τ) : Prop where
  name_ne : p.parts.name ≠ []
  keys : QInv p.parts.quals
  vals_ne : ∀ kv ∈ p.parts.quals, kv.2 ≠ []
  retrievable : ∀ kv ∈ p.parts.quals, Quals.get U p.parts.quals kv.1 = .ok (some kv.2)
  checksum : ∀ t, lookup p.parts.quals checksumKey = some t → CanonChecksum t

/-- a hook can only produce collections satisfying the invariant (privacy of `Qualifiers`) -/
def HookKeepsInv {τ ε σ : Type} (S : Shape τ ε σ) : Prop :=
  ∀ ty parts st ty' parts', QInv parts.quals → (S.finish ty parts st).1 = .ok (ty', parts') → QInv parts'.quals

theorem valid_of_postFinish {τ ε : Type} (lift : PErr → ε) (ty : τ) (parts : Parts) (p : GPurl τ)
    (hq : QInv parts.quals) (h : postFinish U lift ty parts = .ok p) : Valid U p := by
  have hb := built_of_postFinish U lift hq h
  exact ⟨hb.name_ne, hb.quals_inv, hb.vals_ne, fun kv hm => get_of_mem U hb.quals_inv hm, fun t ht => hb.cks.canon ht⟩

/-- all sequences of builder calls followed by `build()`, all type parameters -/
theorem build_wf {τ ε σ : Type} (S : Shape τ ε σ) (hS : HookKeepsInv S) (b : GPurl τ) (st : σ) (p : GPurl τ)
    (hb : QInv b.parts.quals) (h : (buildWith U S b st).1 = .ok p) : Valid U p := by
  rw [buildWith_fst] at h
  split at h
  · cases h
  next t' parts' hfin => exact valid_of_postFinish U S.lift t' parts' p (hS b.ty b.parts st t' parts' hb hfin) h

/-- all strings given to the parser, all type parameters -/
theorem parse_wf {τ ε σ : Type} (S : Shape τ ε σ) (hS : HookKeepsInv S) (s : Str) (st : σ) (p : GPurl τ)
    (h : (parseWith U S s st).1 = .ok p) : Valid U p := by
  obtain ⟨a, rest, parts0, t, parts1, t', parts2, h1, h2, h3, h4, h5⟩ := parseWith_ok_decompose U S h
  have hq1 : QInv parts1.quals := by rw [(parsePost_ok h3).1]; exact (parsePre_ok U h1).2.1
  exact valid_of_postFinish U S.lift t' parts2 p (hS t parts1 _ t' parts2 hq1 h4) h5

/-- the built-in shapes never touch the qualifiers in their hook (`HookOk.keeps`; `smallShape` is
`stringShape` word for word) -/
theorem builtin_hooks_keep_inv :
    HookKeepsInv stringShape ∧ HookKeepsInv smallShape ∧ HookKeepsInv cowShape ∧ HookKeepsInv (pkgShape U) := by
  have key : ∀ {τ ε σ : Type} {S : Shape τ ε σ}, HookOk S → HookKeepsInv S :=
    fun hS ty parts st ty' parts' hq h => (hS.keeps h).1 ▸ hq
  exact ⟨key stringShape_hookOk, key stringShape_hookOk, key cowShape_hookOk, key (pkgShape_hookOk U)⟩

/-- namespace(), version(), subpath() never report an empty string -/
theorem accessor_never_empty {τ : Type} (p : GPurl τ) :
    p.namespace ≠ some [] ∧ p.version ≠ some [] ∧ p.subpath ≠ some [] := by
  have key : ∀ s : Str, optStr s ≠ some [] := fun s h => by
    unfold optStr at h
    split at h
    · cases h
    · cases h; contradiction
  exact ⟨key _, key _, key _⟩

/-- with the string type parameters the type is non-empty, lower-case, `[a-z0-9.+-]` -/
theorem builtin_type_wf (b p : GPurl Str) (h : buildS U b = .ok p) :
    isValidType p.ty = true ∧ asciiLower p.ty = p.ty := by
  obtain ⟨hv, e⟩ := buildS_ok_ty h
  rw [e]
  exact ⟨isValidType_asciiLower hv, asciiLower_idem b.ty⟩

/-- with `PackageType` the type string is one of the table's (valid, lower-case) names -/
theorem pkg_type_wf (t : PkgType) : isValidType t.name = true ∧ asciiLower t.name = t.name :=
  ⟨C15.name_valid t, C15.name_lower t⟩

/-- for the type-agnostic parser: additionally namespace and subpath are well-formed -/
theorem parseS_wf (s : Str) (p : GPurl Str) (h : parseS U s = .ok p) : WF p ∧ Valid U p :=
  ⟨Purl.parseS_wf U h, parse_wf U stringShape (builtin_hooks_keep_inv U).1 s () p h⟩

/-- instantiation at the linked tables -/
theorem parseS_wf_rust (s : Str) (p : GPurl Str) (h : parseS rustUnicode s = .ok p) : WF p ∧ Valid rustUnicode p :=
  parseS_wf rustUnicode s p h

/-! ### non-vacuity: a canonical checksum text -/
example : CanonChecksum ['a', ':', '0', '0', ',', 'b', ':', 'f', 'f'] :=
  ⟨[(['a'], ['0', '0']), (['b'], ['f', 'f'])], by simp, by rfl, by decide +kernel, by decide +kernel⟩

end Purl.C04
