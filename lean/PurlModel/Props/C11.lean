/-
  C11 — the qualifier collection behaves as a case-insensitive sorted map.

  The reference map of a collection `q` is `lookup q : Str → Option Str` (association-list lookup by
  exact key; its keys are lower-case).  Every public operation (`Quals.step`, one constructor of `QOp`
  per API call, `EntAct` per use of an `Entry`) preserves the representation invariant `QInv` (valid
  lower-case keys, strictly ascending), answers what the reference map answers for the ASCII-lower-cased
  key, and changes the reference map as the corresponding map operation does — in every reachable
  state, with no bound on the number of operations or on the strings.
-/
import PurlModel.Lemmas.QualsStep
import PurlModel.Lemmas.BinSearch
import PurlModel.Lemmas.IterOps
import PurlModel.Lemmas.Utf8Order
import PurlModel.Lemmas.RustUnicode
namespace Purl.C11
open Purl Purl.Generated

set_option linter.unusedSectionVars false
variable (U : UnicodeOps) [LawfulUnicode U]

/-- Every state reachable by public operations from one satisfying the invariant (e.g. the qualifiers
of a parsed PURL) satisfies it. -/
theorem run_preserves_inv (q : Quals) (hq : QInv q) (ops : List QOp) (os : List QOut) (q' : Quals)
    (h : Quals.run U q ops = .ok (os, q')) : QInv q' := by
  induction ops generalizing q os hq with
  | nil => cases h; exact hq
  | cons op rest ih =>
    rw [Quals.run] at h
    split at h
    · cases h
    next o q₁ hs =>
      split at h
      · cases h
      next os' q₂ hr => cases h; exact ih q₁ (step_inv U hq hs) os' hr

/-- In particular every state reachable from the empty collection: iteration is in strictly ascending
key order (`riter` being the reverse), keys are valid and lower-case. -/
theorem reachable_inv (ops : List QOp) (os : List QOut) (q : Quals)
    (h : Quals.run U [] ops = .ok (os, q)) : QInv q :=
  run_preserves_inv U [] QInv_nil ops os q h

theorem tryFromIter_inv (items : List (Str × Str)) (q : Quals)
    (h : Quals.tryFromIter U items [] = .ok q) : QInv q :=
  Purl.tryFromIter_inv U QInv_nil h

/-- `get`: the reference lookup under the lower-cased key; an invalid key is simply absent. -/
theorem get_spec (q : Quals) (hq : QInv q) (k : Str) :
    q.get U k = .ok (if isValidKey k then lookup q (asciiLower k) else none) := by
  rw [get_eq U, lookupS_eq_lookup hq.1]

/-- lookups do not depend on the letter case used for the key -/
theorem get_case_independent (q : Quals) (k k' : Str) (hk : isValidKey k = true) (hk' : isValidKey k' = true)
    (h : asciiLower k = asciiLower k') : q.get U k = q.get U k' := by
  rw [get_eq U, get_eq U, hk, hk', h]

theorem contains_spec (q : Quals) (hq : QInv q) (k : Str) :
    q.containsKey U k = .ok (isValidKey k && (lookup q (asciiLower k)).isSome) := by
  rw [containsKey_eq U, lookupS_eq_lookup hq.1]

/-- `insert` with a valid key returns the stored value and is the map update at the lower-cased key. -/
theorem insert_spec (q : Quals) (hq : QInv q) (k v : Str) (hk : isValidKey k = true) :
    ∃ q', q.insert U k v = .ok (v, q') ∧ QInv q' ∧
      ∀ p, lookup q' p = if p = asciiLower k then some v else lookup q p :=
  ⟨upsert (asciiLower k) v q, insert_valid U hk q v, QInv_upsert v hq (keyOk_asciiLower hk),
    fun p => lookup_upsert v p⟩

/-- `insert` with an invalid key is refused; there is no new state. -/
theorem insert_invalid_spec (q : Quals) (k v : Str) (hk : isValidKey k = false) :
    q.insert U k v = fail .invalidQualifier :=
  insert_invalid U hk q v

/-- `remove` returns the previous value of the reference map and is the map removal at the lower-cased
key; an invalid key changes nothing. -/
theorem remove_spec (q : Quals) (hq : QInv q) (k : Str) :
    ∃ q', q.remove U k = .ok ((if isValidKey k then lookup q (asciiLower k) else none), q') ∧ QInv q' ∧
      ∀ p, lookup q' p = if isValidKey k = true ∧ p = asciiLower k then none else lookup q p := by
  cases hk : isValidKey k with
  | false =>
    refine ⟨q, ?_, hq, ?_⟩
    · rw [remove_eq U, hk]; rfl
    · intro p; simp
  | true =>
    refine ⟨eraseS (asciiLower k) q, ?_, QInv_eraseS _ hq, ?_⟩
    · rw [remove_eq U, hk, lookupS_eq_lookup hq.1]; rfl
    · intro p
      rw [lookup_eraseS hq.1]
      simp

/-- `entry` classifies a valid key as occupied exactly when the reference map has it
(under the lower-cased key), whatever the letter case of the key. -/
theorem entry_spec (q : Quals) (hq : QInv q) (k : Str) (hk : isValidKey k = true) :
    (∃ i, q.entry U k = .ok (.occupied i) ∧ ∃ v, q[i]? = some (asciiLower k, v) ∧ lookup q (asciiLower k) = some v) ∨
    (∃ i mk, q.entry U k = .ok (.vacant i mk) ∧ mk.intoKey = asciiLower k ∧ lookup q (asciiLower k) = none) := by
  obtain ⟨mk, hmk, he⟩ := entry_valid U hk q
  rw [← lookupS_eq_lookup hq.1]
  cases hf : foundAt (asciiLower k) q with
  | true =>
    obtain ⟨pre, w, rest, e, hlb, hl, -⟩ := scan_found hf
    exact .inl ⟨lb (asciiLower k) q, by rw [he, hf]; rfl, w, by rw [hlb, e]; simp, hl⟩
  | false => exact .inr ⟨lb (asciiLower k) q, mk, by rw [he, hf]; rfl, hmk, lookupS_not_found hf⟩

theorem entry_invalid_spec (q : Quals) (k : Str) (hk : isValidKey k = false) :
    q.entry U k = fail .invalidQualifier :=
  entry_invalid U hk q

/-- inserting through a vacant entry is the map update -/
theorem vacant_insert_spec (q : Quals) (hq : QInv q) (k v : Str) (hk : isValidKey k = true)
    (i : Nat) (mk : MixedKey) (he : q.entry U k = .ok (.vacant i mk)) :
    ∃ q', q.vacantInsert i mk v = .ok (v, q') ∧ QInv q' ∧
      ∀ p, lookup q' p = if p = asciiLower k then some v else lookup q p := by
  obtain ⟨mk', hmk', he'⟩ := entry_valid U hk q
  cases hf : foundAt (asciiLower k) q with
  | true => rw [he', hf] at he; cases he
  | false =>
    rw [he', hf] at he
    cases he
    exact ⟨_, vacantInsert_eq hmk' hf, QInv_upsert v hq (keyOk_asciiLower hk), fun p => lookup_upsert v p⟩

/-- `retain`: the reference map is filtered by the predicate -/
theorem retain_spec (q : Quals) (hq : QInv q) (f : Str → Str → Bool) :
    QInv (q.retain f) ∧ ∀ p, lookup (q.retain f) p = (lookup q p).filter (f p) :=
  ⟨QInv_filter _ hq, fun p => lookup_filter hq.1 f p⟩

/-- `get_mut(k)` hands out the slot of the reference map's entry (any letter case of `k`), and
assigning through it is the map update; for an absent or invalid key there is no slot -/
theorem getMut_spec (q : Quals) (hq : QInv q) (k v : Str) :
    (isValidKey k = true → (lookup q (asciiLower k)).isSome = true →
      ∃ i q', q.getMutIndex U k = .ok (some i) ∧ q.setAt i v = .ok q' ∧ QInv q' ∧
        ∀ p, lookup q' p = if p = asciiLower k then some v else lookup q p) ∧
    ((isValidKey k = false ∨ lookup q (asciiLower k) = none) → q.getMutIndex U k = .ok none) := by
  rw [getMutIndex_eq U, foundAt_eq_lookup hq.1]
  constructor
  · intro hk hs
    exact ⟨lb (asciiLower k) q, upsert (asciiLower k) v q, by rw [hk, hs]; rfl,
      setAt_lb_eq_upsert ((foundAt_eq_lookup hq.1 _).trans hs) v, QInv_upsert v hq (keyOk_asciiLower hk),
      fun p => lookup_upsert v p⟩
  · rintro (h | h) <;> rw [h]
    · rfl
    · simp

/-- `Index` (`q[k]`): the reference map's value — or the documented panic when there is none -/
theorem index_spec (q : Quals) (hq : QInv q) (k : Str) :
    q.index U k = (match (if isValidKey k then lookup q (asciiLower k) else none) with
                   | some v => .ok v
                   | none => panic .qualIndex) := by
  rw [index_eq U, lookupS_eq_lookup hq.1]
  rfl

/-- `try_from_iter` on valid keys that are pairwise distinct ignoring case: every pair is stored
(empty values too), the content is exactly the pairs -/
theorem tryFromIter_spec (items : List (Str × Str)) (hok : ∀ kv ∈ items, isValidKey kv.1 = true)
    (hnd : (items.map fun kv => asciiLower kv.1).Nodup) :
    ∃ q, Quals.tryFromIter U items [] = .ok q ∧ QInv q ∧ ∀ p, lookup q p = pairsLookup items p := by
  obtain ⟨q, h1, h2, h3⟩ := tryFromIter_of_distinct U items [] QInv_nil hok hnd (fun _ _ => rfl)
  refine ⟨q, h1, h2, ?_⟩
  intro p
  rw [h3 p]
  cases pairsLookup items p <;> rfl

/-- an invalid key, or one present already in any letter case, is refused -/
theorem tryFromIter_refuses (k v : Str) (rest : List (Str × Str)) (acc : Quals) (hacc : QInv acc) :
    (isValidKey k = false → Quals.tryFromIter U ((k, v) :: rest) acc = fail .invalidQualifier) ∧
    (isValidKey k = true → (lookup acc (asciiLower k)).isSome = true →
      Quals.tryFromIter U ((k, v) :: rest) acc = fail .invalidQualifier) := by
  rw [tryFromIter_cons, foundAt_eq_lookup hacc.1]
  exact ⟨fun hk => if_neg fun h => by simp [hk] at h, fun _ hs => if_neg fun h => by simp [hs] at h⟩

/-- `clone_from(&src)`: nothing of the old content survives, whatever the two lengths -/
theorem cloneFrom_spec (q : Quals) (items : List (Str × Str)) (hok : ∀ kv ∈ items, isValidKey kv.1 = true)
    (hnd : (items.map fun kv => asciiLower kv.1).Nodup) :
    ∃ q', q.step U (.cloneFrom items) = .ok (.unit, q') ∧ QInv q' ∧ ∀ p, lookup q' p = pairsLookup items p := by
  obtain ⟨q', h1, h2, h3⟩ := tryFromIter_spec U items hok hnd
  exact ⟨q', by unfold Quals.step; simp only [h1], h2, h3⟩

/-- the order of the pairs given to `try_from_iter` does not matter -/
theorem tryFromIter_order_irrelevant (a b : List (Str × Str)) (hperm : a.Perm b)
    (hok : ∀ kv ∈ a, isValidKey kv.1 = true) (hnd : (a.map fun kv => asciiLower kv.1).Nodup) :
    ∃ q, Quals.tryFromIter U a [] = .ok q ∧ Quals.tryFromIter U b [] = .ok q := by
  have hokb : ∀ kv ∈ b, isValidKey kv.1 = true := fun x hx => hok x (hperm.symm.subset hx)
  have hndb : (b.map fun kv => asciiLower kv.1).Nodup := (hperm.map _).nodup_iff.1 hnd
  obtain ⟨qa, a1, a2, a3⟩ := tryFromIter_spec U a hok hnd
  obtain ⟨qb, b1, b2, b3⟩ := tryFromIter_spec U b hokb hndb
  have : qa = qb := by
    apply QInv.ext a2.1 b2.1
    intro p
    -- at most one pair has key p (ignoring case), so the lookup does not depend on the order
    rw [a3 p, b3 p, pairsLookup_eq_lookup, pairsLookup_eq_lookup]
    exact lookup_perm (hperm.map _) (by simpa [List.map_map, Function.comp_def] using hnd) p
  subst this
  exact ⟨qa, a1, b1⟩

/-- `next()` and `next_back()` strictly alternating yield every stored pair exactly once -/
theorem double_ended_iteration_complete (q : Quals) : (endsAux q.length q).Perm q := by
  generalize hn : q.length = n
  induction n generalizing q with
  | zero => rw [List.length_eq_zero_iff.1 hn]; exact .refl _
  | succ k ih =>
    cases q with
    | nil => cases hn
    | cons x xs => exact .cons x ((ih xs.reverse (by simpa using hn)).trans (List.reverse_perm xs))

theorem stored_pairs (q : Quals) (hq : QInv q) :
    (∀ k v, (k, v) ∈ q → q.get U k = .ok (some v)) ∧ q.Pairwise (fun a b => cmpStr a.1 b.1 = .lt) :=
  ⟨fun _ _ hm => get_of_mem U hq hm, hq.1⟩

/-- Canonical representation: two collections with the same content are the same value, hence equal,
and (the derived `Hash`/`Ord` being functions of the value) hash and order alike. -/
theorem same_content_eq (a b : Quals) (ha : QInv a) (hb : QInv b) (h : ∀ p, lookup a p = lookup b p) : a = b :=
  QInv.ext ha.1 hb.1 h

/-- insertion order does not matter -/
theorem insert_commutes (q : Quals) (hq : QInv q) (k₁ v₁ k₂ v₂ : Str) (h₁ : isValidKey k₁ = true) (h₂ : isValidKey k₂ = true)
    (hne : asciiLower k₁ ≠ asciiLower k₂) :
    upsert (asciiLower k₂) v₂ (upsert (asciiLower k₁) v₁ q) = upsert (asciiLower k₁) v₁ (upsert (asciiLower k₂) v₂ q) := by
  have i1 := QInv_upsert v₁ hq (keyOk_asciiLower h₁)
  have i2 := QInv_upsert v₂ hq (keyOk_asciiLower h₂)
  apply same_content_eq _ _ (QInv_upsert v₂ i1 (keyOk_asciiLower h₂)) (QInv_upsert v₁ i2 (keyOk_asciiLower h₁))
  intro p
  rw [lookup_upsert v₂, lookup_upsert v₁, lookup_upsert v₁, lookup_upsert v₂]
  by_cases e1 : p = asciiLower k₁
  · rw [if_neg (e1 ▸ hne), if_pos e1, if_pos e1]
  · rw [if_neg e1, if_neg e1]

/-- the search compares `str`s, i.e. UTF-8 bytes; the model compares scalar values: the same order, for
all strings (keys are ASCII, but the probe handed to `get` / `cmp` / `eq` need not be) -/
theorem key_order_is_byte_order (a b : Str) : cmpBytes (utf8 a) (utf8 b) = cmpStr a b :=
  cmpBytes_utf8 a b

/-! ### iterators used piecemeal (`ItOp`) -/

/-- No pair is yielded twice and none is invented: the pairs yielded so far with those still in
the iterator form a sub-multiset of the collection. -/
theorem iterator_never_repeats (q : Quals) (ops : List ItOp) (z : Str × Str) :
    (yielded (itRun q ops).1 ++ (itRun q ops).2).count z ≤ q.count z :=
  itRun_count_le q ops z

/-- … hence on a collection satisfying the invariant no pair — and, the keys being distinct, no key — is
yielded twice by one iterator -/
theorem iterator_yields_each_pair_once (q : Quals) (hq : QInv q) (ops : List ItOp) :
    (yielded (itRun q ops).1).Nodup := by
  rw [List.nodup_iff_count]
  intro z
  have h1 := itRun_count_le q ops z
  have h2 : q.count z ≤ 1 := List.nodup_iff_count.1 (Sorted.nodup hq.1) z
  simp only [List.count_append] at h1
  omega

/-- what is left in an iterator is a contiguous part of the collection (so still ascending); what a call
yields, it dropped -/
theorem iterator_window (rem : Quals) (op : ItOp) :
    ∃ a b, rem = a ++ (itStep rem op).2 ++ b ∧ ∀ x, (itStep rem op).1 = .item (some x) → x ∈ a ++ b :=
  itStep_window rem op

/-- an iterator that has answered `None` is empty (overshooting `nth` / `nth_back` included) -/
theorem iterator_none_means_exhausted (rem : Quals) (op : ItOp) (h : (itStep rem op).1 = .item none) :
    (itStep rem op).2 = [] := by
  revert h
  refine itStep_cases rem (P := fun r => r.1 = .item none → r.2 = []) (fun n h => ?_) (fun n hn h => ?_) (fun _ => rfl)
    (fun h => nomatch h) op
  · exact List.drop_eq_nil_of_le (Nat.le_succ_of_le (List.getElem?_eq_none_iff.1 (ItOut.item.inj h)))
  · have : rem.length ≤ rem.length - 1 - n := List.getElem?_eq_none_iff.1 (ItOut.item.inj h)
    omega

/-- `len()` counts down: a call that yields a pair leaves strictly fewer, no call leaves more -/
theorem iterator_len_counts_down (rem : Quals) (op : ItOp) :
    (itStep rem op).2.length ≤ rem.length ∧
    ∀ x, (itStep rem op).1 = .item (some x) → (itStep rem op).2.length < rem.length := by
  obtain ⟨a, b, h, hm⟩ := itStep_window rem op
  have hl := congrArg List.length h
  simp only [List.length_append] at hl
  refine ⟨by omega, fun x hx => ?_⟩
  -- what is yielded was dropped, so something was
  have := List.length_pos_of_mem (hm x hx)
  simp only [List.length_append] at this
  omega

/-- the `Iterator::nth` contract: `nth(n)` is `n` discarded `next()`s and one more -/
theorem iterator_nth_contract (rem : Quals) (n : Nat) :
    itStep rem (.nth n) = itStep (itRun rem (List.replicate n .next)).2 .next := by
  induction n generalizing rem with
  | zero => exact (itStep_next rem).symm
  | succ k ih =>
    have := ih (itStep rem .next).2
    cases rem <;> exact this

/-- a partly consumed iterator, an overshooting `nth_back`, then `len()` -/
example : itRun [("a".toList, "1".toList), ("b".toList, "2".toList), ("c".toList, "3".toList)]
    [.next, .nthBack 5, .len] = ([.item (some ("a".toList, "1".toList)), .item none, .len 0], []) := by decide +kernel

/-- `Qualifiers::search` is std's `binary_search_by`.  The model's `search` is that function's contract (a
lower-bound scan); `searchBin` is its algorithm as the linked std implements it (PurlModel/BinSearch.lean).
Under the invariant they agree — so every theorem of this file also holds of the collection searched the
way the compiled code searches it. -/
theorem search_is_std_binary_search (q : Quals) (hq : QInv q) (mk : MixedKey) :
    q.searchBin U mk = q.search U mk :=
  searchBin_eq_search U hq.1 mk

/-- … in particular on every state reachable through the public API -/
theorem reachable_search_is_std_binary_search (ops : List QOp) (os : List QOut) (q : Quals)
    (h : Quals.run U [] ops = .ok (os, q)) (mk : MixedKey) : q.searchBin U mk = q.search U mk :=
  search_is_std_binary_search U q (reachable_inv U ops os q h) mk

/-- on any slice along which the comparison is monotone, std's algorithm returns the lower-bound scan
(no out-of-range read, no failure) -/
theorem std_binary_search_meets_contract {α : Type} (c : α → Ordering) (l : List α) (hm : Mono c l) :
    binarySearchBy (fun a => some (c a)) l = .ok (foundG c l, lbG c l) :=
  binarySearchBy_eq_scan c l hm

/-- No operation panics, except the two documented cases (which do). -/
theorem no_panic (q : Quals) (op : QOp) (h : docPanic q op = false) : ∃ r, q.step U op = .ok r :=
  step_ok U q op h

theorem documented_panic_index (q : Quals) (k : Str) (h : docPanic q (.index k) = true) :
    q.step U (.index k) = panic .qualIndex :=
  step_index_absent_panics U q k h

/-! ### non-vacuity -/

/-- a concrete non-trivial collection meets the invariant … -/
example : QInv [("a_b".toList, "1".toList), ("aab".toList, "2".toList), ("checksum".toList, "x".toList)] := by
  constructor
  · unfold Sorted; decide +kernel
  · intro kv h
    simp only [List.mem_cons, List.not_mem_nil, or_false] at h
    rcases h with rfl | rfl | rfl <;> exact ⟨by decide +kernel, by decide +kernel⟩

/-- … and `'_'` sorts before letters (byte order) -/
example : cmpStr "a_b".toList "aab".toList = .lt := by decide +kernel

/-- the invariant is what makes the contract hold: on the unsorted slice `[b, a, c]` std's algorithm finds
`a` at index 1 while the lower-bound scan stops at index 0 -/
example : bsearchStrs "a".toList ["b".toList, "a".toList, "c".toList] = .ok (true, 1) ∧
    (foundAt "a".toList [("b".toList, []), ("a".toList, []), ("c".toList, [])],
      lb "a".toList [("b".toList, []), ("a".toList, []), ("c".toList, [])]) = (false, 0) := by
  constructor
  · simp [bsearchStrs, binarySearchBy, bsLoop, cmpStr]
  · simp [foundAt, lb, cmpStr]

/-- instantiation at the case tables of the linked Rust `std` -/
theorem reachable_inv_rust (ops : List QOp) (os : List QOut) (q : Quals)
    (h : Quals.run rustUnicode [] ops = .ok (os, q)) : QInv q :=
  reachable_inv rustUnicode ops os q h

end Purl.C11
