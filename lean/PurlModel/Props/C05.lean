/-
  C05 — invalid input is refused, with the matching error, however it is spelled.

  (a) Never accepted: what every accepted string must look like (`accepted_*`): scheme, a valid
      un-encoded type, a non-empty name, every qualifier item `key=value` with a valid key and at
      most one non-empty value per key ignoring case, every component the strict UTF-8 decoding of
      its percent-decoded bytes, no '/' hidden in a namespace / subpath segment, a well-formed
      checksum.
  (b) The matching error: the parser's stages in order, each with the only error it can produce, and
      the qualifier loop going left to right (so the first defect decides).  The error precedence
      of the model is the code's order of checks; multi-fault inputs are covered by the
      correspondence.
  (c) One defect inside an otherwise valid spelling, and (d) the accepted language exactly, are
      introduced where they stand.
-/
import PurlModel.Lemmas.ParseWF
import PurlModel.Lemmas.Checksum
import PurlModel.Props.C08
import PurlModel.Lemmas.RustUnicode
import PurlModel.Lemmas.Pieces
import PurlModel.Lemmas.PiecesComplete
import PurlModel.Props.C07
namespace Purl.C05
open Purl Purl.Generated

set_option linter.unusedSectionVars false
variable (U : UnicodeOps) [LawfulUnicode U]

/-! ### (a) never accepted -/

/-- an accepted string starts with `pkg:` and its type substring is syntactically valid (hence not
percent-encoded: '%' is not a type character) -/
theorem accepted_scheme_and_type {τ ε σ : Type} (S : Shape τ ε σ) (s : Str) (st : σ) (p : GPurl τ)
    (h : (parseWith U S s st).1 = .ok p) :
    (∃ r, s = schemePrefix ++ r) ∧
    ∃ a rest parts, parsePre U s = .ok (a, rest, parts) ∧ isValidType a = true ∧ '%' ∉ a := by
  obtain ⟨a, rest, parts0, t, parts1, t', parts2, h1, _, _, _, _⟩ := parseWith_ok_decompose U S h
  obtain ⟨s1, _, _, _, _, hs, _, _, _, hv, _⟩ := (parsePre_ok_iff U).1 h1
  exact ⟨⟨s1, stripPrefix_eq_some hs⟩, a, rest, parts0, h1, hv,
    no_sep_of_chars (seps := ['%']) (by decide +kernel) (by decide +kernel) (List.all_eq_true.1 (Bool.and_eq_true_iff.1 hv).2)
      (by simp)⟩

/-- the name is non-empty, the qualifiers are canonical with non-empty values, a checksum is well-formed -/
theorem accepted_components (s : Str) (p : GPurl Str) (h : parseS U s = .ok p) :
    p.parts.name ≠ [] ∧ QInv p.parts.quals ∧ (∀ kv ∈ p.parts.quals, kv.2 ≠ []) ∧
    (∀ t, lookup p.parts.quals checksumKey = some t → CanonChecksum t) ∧ NsWF p.parts.ns ∧ SubWF p.parts.subpath := by
  have wf := parseS_wf U h
  refine ⟨wf.name_ne, wf.quals_inv, wf.vals_ne, ?_, wf.ns_wf, wf.sub_wf⟩
  exact fun t ht => (parseS_built U h).cks.canon ht

/-- the qualifier loop only succeeds if every item is `key=value` with a valid key and a decodable value -/
theorem accepted_qualifier_items (items : List Str) (q q' : Quals) (h : qualItems U items q = .ok q') :
    ∀ item ∈ items, ∃ k v d, splitOnce '=' item = some (k, v) ∧ isValidKey k = true ∧ decode v = .ok d := by
  induction items generalizing q with
  | nil => intro item hm; cases hm
  | cons it rest ih =>
    obtain ⟨k, v, d, hsp, hk, _, hd, h⟩ := qualItems_cons_ok U h
    intro item hm
    rcases List.mem_cons.1 hm with rfl | hm
    · exact ⟨k, v, d, hsp, hk, hd⟩
    · exact ih _ h item hm

/-- a second item for a key already present (in any letter case) is refused, whatever its value -/
theorem duplicate_key_refused (q : Quals) (k v : Str) (rest : List Str) (hk : isValidKey k = true)
    (hf : foundAt (asciiLower k) q = true) :
    qualItems U ((k ++ '=' :: v) :: rest) q = fail .invalidQualifier := by
  rw [qualItems_cons, splitOnce_append v (validKey_no_sep hk (by decide))]
  simp [hk, hf]

/-- a segment hiding a '/' behind an escape is refused -/
theorem hidden_slash_refused_ns (seg d : Str) (rest : List Str) (acc : Str) (hne : seg.isEmpty = false)
    (hd : decode seg = .ok d) (hs : d.contains '/' = true) :
    namespaceSegs (seg :: rest) acc = .error .invalidEscape := by
  simp only [namespaceSegs, hne, Bool.false_eq_true, if_false, hd, hs, if_true]

theorem hidden_slash_refused_sub (seg d : Str) (rest : List Str) (acc : Str) (hraw : isDotSeg seg = false)
    (hd : decode seg = .ok d) (hs : d.contains '/' = true) :
    subpathSegs (seg :: rest) acc = .error .invalidEscape :=
  C07.encoded_dot_or_slash_refused seg d rest acc hraw hd (by unfold badSubSeg; rw [hs]; rfl)

/-! ### (b) the matching error -/

/-- no `pkg:` prefix: UnsupportedUrlScheme (wrapped by the shape's `From<ParseError>`) -/
theorem no_scheme {τ ε σ : Type} (S : Shape τ ε σ) (s : Str) (st : σ) (h : stripPrefix schemePrefix s = none) :
    (parseWith U S s st).1 = fail (S.lift .unsupportedUrlScheme) := by
  unfold parseWith parsePre
  rw [h]
  rfl

/-- the order of the remaining checks of the first half, each with its error -/
theorem first_half_errors (s s1 : Str) (hs : stripPrefix schemePrefix s = some s1) :
    (∀ e, splitSubpath (trimStart '/' s1) = .error e → parsePre U s = fail .invalidEscape) ∧
    (∀ s2 sub, splitSubpath (trimStart '/' s1) = .ok (s2, sub) →
      (∀ s3 q, splitQuals U s2 = .ok (s3, q) →
        (s3 = [] → parsePre U s = fail (.missingRequiredField .packageType)) ∧
        (s3 ≠ [] → splitOnce '/' s3 = none → parsePre U s = fail (.missingRequiredField .name)) ∧
        (∀ ty rest, splitOnce '/' s3 = some (ty, rest) → isValidType ty = false →
            parsePre U s = fail .invalidPackageType))) := by
  unfold parsePre
  simp only [hs]
  constructor
  · intro e he
    cases splitSubpath_error_kind he
    rw [he]
  · intro s2 sub h2 s3 q h3
    simp only [h2, h3]
    refine ⟨fun e => by subst e; rfl, fun hne hsp => by simp [hsp, hne], fun ty rest hsp hv => ?_⟩
    have hne : s3 ≠ [] := by rintro rfl; cases hsp
    simp [hsp, hv, hne]

/-- an invalid escape in subpath, version, namespace or name is InvalidEscape — these stages can
produce no other error -/
theorem escape_errors :
    (∀ s e, splitSubpath s = .error e → e = .invalidEscape) ∧
    (∀ rest parts e, parsePost rest parts = .error e → e = .invalidEscape) ∧
    (∀ s e, decode s = .error e → e = .invalidEscape) :=
  ⟨fun _ _ h => splitSubpath_error_kind h, fun _ _ _ h => parsePost_error_kind h, fun _ _ h => decode_error_kind h⟩

/-- qualifier defects: the first defective item decides; item without '=', invalid / empty /
percent-encoded key, key already holding a value: InvalidQualifier; undecodable value: InvalidEscape -/
theorem qualifier_errors (pre post : List Str) (item : Str) (q q1 : Quals) (hpre : qualItems U pre q = .ok q1) :
    (splitOnce '=' item = none → qualItems U (pre ++ item :: post) q = fail .invalidQualifier) ∧
    (∀ k v, splitOnce '=' item = some (k, v) → isValidKey k = false →
        qualItems U (pre ++ item :: post) q = fail .invalidQualifier) ∧
    (∀ k v, splitOnce '=' item = some (k, v) → isValidKey k = true → foundAt (asciiLower k) q1 = true →
        qualItems U (pre ++ item :: post) q = fail .invalidQualifier) ∧
    (∀ k v e, splitOnce '=' item = some (k, v) → isValidKey k = true → foundAt (asciiLower k) q1 = false →
        decode v = .error e → qualItems U (pre ++ item :: post) q = fail .invalidEscape) := by
  have e : qualItems U (pre ++ item :: post) q = qualItems U (item :: post) q1 := by rw [qualItems_append, hpre]
  rw [e, qualItems_cons]
  refine ⟨fun h => by rw [h], fun k v h hk => by simp [h, hk], fun k v h hk hf => by simp [h, hk, hf], ?_⟩
  intro k v e h hk hf hd
  cases decode_error_kind hd
  simp [h, hk, hf, hd]

/-- an empty, or percent-encoded, key is an invalid key -/
theorem empty_and_encoded_keys_invalid (k : Str) : isValidKey [] = false ∧ ('%' ∈ k → isValidKey k = false) := by
  refine ⟨by decide, fun hm => ?_⟩
  cases hv : isValidKey k with
  | false => rfl
  | true => exact absurd hm (no_sep_of_chars (seps := ['%']) (by decide +kernel) (by decide +kernel) (isValidKey_chars hv) (by simp))

omit [LawfulUnicode U] in
/-- an empty name is MissingRequiredField(Name) -/
theorem empty_name_refused {τ ε : Type} (lift : PErr → ε) (t : τ) (ps : Parts) (h : ps.name = []) :
    postFinish U lift t ps = fail (lift (.missingRequiredField .name)) :=
  postFinish_name_nil U lift t h

/-- a malformed checksum (entry without ':', repeated algorithm, odd or non-hex digits) is
InvalidQualifier -/
theorem checksum_errors (text : Str) (e : PErr) :
    (Cksum.ofText U text = .error e → e = .invalidQualifier) ∧
    (∀ ck, (∃ kv ∈ ck, hexOk kv.2 = false) → Cksum.toText ck = fail .invalidQualifier) :=
  ⟨fun h => ofText_error_kind U h, fun ck h => toText_err ck h⟩

/-- whenever the type-agnostic PURL accepts, the typed PURL refuses an unknown type with
UnsupportedType and maven without namespace with MissingRequiredField(Namespace); generic errors it
wraps in `PackageError::Parse` (`typed_wraps_generic_errors`) -/
theorem typed_errors (s : Str) (g : GPurl Str) (h : parseS U s = .ok g) :
    ((∀ t : PkgType, g.ty ≠ t.name) → parseP U s = fail .unsupportedType) ∧
    (g.ty = PkgType.Maven.name → trimMatches '/' g.parts.ns = [] →
        parseP U s = fail (.missingRequiredField .namespace)) := by
  obtain ⟨h1, h2⟩ := C08.typed_vs_generic U s g h
  refine ⟨h2, ?_⟩
  intro ht hns
  rw [h1 .Maven ht]
  simp [pkgFinish, hns]

theorem typed_wraps_generic_errors (s : Str) (e : PErr) (h : parsePre U s = fail e) :
    parseP U s = fail (.parse e) := by
  unfold parseP
  rw [parseWith_fst, h]
  rfl

/-! ### (c) one defect inside an otherwise valid spelling

For any string assembled from component spellings (`Pieces` with the side conditions `Pieces.Sep`,
which do not require a valid type), the result is determined piece by piece in the code's order
(`spelling_result`).  Hence a single defective piece — the others decoding — gives exactly its
error, however the defect is spelled and whatever the other pieces are (the hypothesis is only
"this piece does not decode" / "this type is not valid"). -/

theorem spelling_result (w : Pieces) (sep : w.Sep) :
    parseS U w.assemble =
      (match w.subR with
       | .error e => fail e
       | .ok sub =>
         match w.qualsR U with
         | .error f => .error f
         | .ok q =>
           if !isValidType w.ty then fail .invalidPackageType
           else
             match w.verR with
             | .error e => fail e
             | .ok ver =>
               match w.nsR with
               | .error e => fail e
               | .ok ns =>
                 match decode w.name with
                 | .error e => fail e
                 | .ok n => buildS U ⟨w.ty, { ns := ns, name := n, version := ver, quals := q, subpath := sub }⟩) :=
  parseS_pieces_eq U w sep

theorem subR_error_kind {w : Pieces} {e : PErr} (h : w.subR = .error e) : e = .invalidEscape := by
  unfold Pieces.subR at h
  split at h
  · exact decodeSubpath_error_kind h
  · cases h

theorem verR_error_kind {w : Pieces} {e : PErr} (h : w.verR = .error e) : e = .invalidEscape := by
  unfold Pieces.verR at h
  split at h
  · exact decode_error_kind h
  · cases h

theorem nsR_error_kind {w : Pieces} {e : PErr} (h : w.nsR = .error e) : e = .invalidEscape := by
  unfold Pieces.nsR at h
  split at h
  · exact decodeNamespace_error_kind h
  · cases h

/-- a subpath that does not decode (invalid UTF-8 behind escapes, a '/' or a dot segment hidden
behind an escape): InvalidEscape -/
theorem fault_subpath (w : Pieces) (sep : w.Sep) (e : PErr) (h : w.subR = .error e) :
    parseS U w.assemble = fail .invalidEscape ∧ parseP U w.assemble = fail (.parse .invalidEscape) := by
  cases subR_error_kind h
  rw [parseS_pieces_eq U w sep, parseP_pieces_eq U w sep, h]
  exact ⟨rfl, rfl⟩

/-- defective qualifiers: the qualifier loop's fault, which `qualifier_errors` determines from the
first defective item -/
theorem fault_qualifiers (w : Pieces) (sep : w.Sep) (sub : Str) (hsub : w.subR = .ok sub) (f : Fault PErr)
    (h : w.qualsR U = .error f) :
    parseS U w.assemble = .error f ∧ parseP U w.assemble = .error (f.map .parse) := by
  rw [parseS_pieces_eq U w sep, parseP_pieces_eq U w sep, hsub, h]
  exact ⟨rfl, rfl⟩

/-- a syntactically invalid (e.g. percent-encoded, or non-ASCII) type: InvalidPackageType -/
theorem fault_type (w : Pieces) (sep : w.Sep) (sub : Str) (q : Quals) (hsub : w.subR = .ok sub)
    (hq : w.qualsR U = .ok q) (hty : isValidType w.ty = false) :
    parseS U w.assemble = fail .invalidPackageType ∧ parseP U w.assemble = fail (.parse .invalidPackageType) := by
  rw [parseS_pieces_eq U w sep, parseP_pieces_eq U w sep, hsub, hq]
  simp [hty]

/-- a well-formed type the typed PURL does not know: UnsupportedType -/
theorem fault_unknown_type (w : Pieces) (sep : w.Sep) (sub : Str) (q : Quals) (hsub : w.subR = .ok sub)
    (hq : w.qualsR U = .ok q) (hty : isValidType w.ty = true) (hun : PkgType.ofStr U w.ty = none) :
    parseP U w.assemble = fail .unsupportedType := by
  rw [parseP_pieces_eq U w sep, hsub, hq]
  simp [hty, hun]

/-- a version that does not decode: InvalidEscape -/
theorem fault_version (w : Pieces) (sep : w.Sep) (sub : Str) (q : Quals) (hsub : w.subR = .ok sub)
    (hq : w.qualsR U = .ok q) (hty : isValidType w.ty = true) (e : PErr) (h : w.verR = .error e) :
    parseS U w.assemble = fail .invalidEscape ∧
    (∀ t, PkgType.ofStr U w.ty = some t → parseP U w.assemble = fail (.parse .invalidEscape)) := by
  cases verR_error_kind h
  rw [parseS_pieces_eq U w sep, parseP_pieces_eq U w sep, hsub, hq, h]
  refine ⟨by simp [hty], ?_⟩
  intro t ht
  simp [hty, ht]

/-- a namespace that does not decode (invalid UTF-8, or a segment hiding '/'): InvalidEscape -/
theorem fault_namespace (w : Pieces) (sep : w.Sep) (sub ver : Str) (q : Quals) (hsub : w.subR = .ok sub)
    (hq : w.qualsR U = .ok q) (hty : isValidType w.ty = true) (hver : w.verR = .ok ver) (e : PErr)
    (h : w.nsR = .error e) :
    parseS U w.assemble = fail .invalidEscape ∧
    (∀ t, PkgType.ofStr U w.ty = some t → parseP U w.assemble = fail (.parse .invalidEscape)) := by
  cases nsR_error_kind h
  rw [parseS_pieces_eq U w sep, parseP_pieces_eq U w sep, hsub, hq, hver, h]
  refine ⟨by simp [hty], ?_⟩
  intro t ht
  simp [hty, ht]

/-- a name that does not decode: InvalidEscape -/
theorem fault_name (w : Pieces) (sep : w.Sep) (sub ver ns : Str) (q : Quals) (hsub : w.subR = .ok sub)
    (hq : w.qualsR U = .ok q) (hty : isValidType w.ty = true) (hver : w.verR = .ok ver) (hns : w.nsR = .ok ns)
    (e : PErr) (h : decode w.name = .error e) :
    parseS U w.assemble = fail .invalidEscape ∧
    (∀ t, PkgType.ofStr U w.ty = some t → parseP U w.assemble = fail (.parse .invalidEscape)) := by
  cases decode_error_kind h
  rw [parseS_pieces_eq U w sep, parseP_pieces_eq U w sep, hsub, hq, hver, hns, h]
  refine ⟨by simp [hty], ?_⟩
  intro t ht
  simp [hty, ht]

/-- an empty name: MissingRequiredField(Name) -/
theorem fault_empty_name (w : Pieces) (sep : w.Sep) (sub ver ns : Str) (q : Quals) (hsub : w.subR = .ok sub)
    (hq : w.qualsR U = .ok q) (hty : isValidType w.ty = true) (hver : w.verR = .ok ver) (hns : w.nsR = .ok ns)
    (h : decode w.name = .ok []) :
    parseS U w.assemble = fail (.missingRequiredField .name) := by
  rw [parseS_pieces_eq U w sep, hsub, hq, hver, hns, h]
  simp only [hty, Bool.not_true, Bool.false_eq_true, if_false, buildS_eq]
  exact empty_name_refused U id _ _ rfl

/-! ### (d) the accepted language, exactly -/

/-- Accepted ⇔ legal spelling.  The generic parser accepts `s` with result `p` exactly when `s` is
`pkg:` + slashes + type + `/` + [namespace `/`] name [`@` version] [`?` qualifiers] [`#` subpath] with
the side conditions of `Pieces.Ok` (which raw separator is the designated one), every piece decodes,
and `build()` of the decoded components gives `p`.  ⇒ is what "refused" rests on: a string with no
such decomposition, or whose decomposition fails to decode or to build, is not accepted. -/
theorem accepted_iff_spelling (s : Str) (p : GPurl Str) :
    parseS U s = .ok p ↔
      ∃ (w : Pieces) (ns name ver sub : Str) (q : Quals), Decomposed U s w ns name ver sub q ∧
        buildS U ⟨w.ty, { ns := ns, name := name, version := ver, quals := q, subpath := sub }⟩ = .ok p := by
  unfold parseS buildS
  rw [parseWith_ok_iff_spelling U stringShape]
  constructor
  · rintro ⟨w, t, ns, name, ver, sub, q, hd, ht, hb⟩
    cases ht
    exact ⟨w, ns, name, ver, sub, q, hd, hb⟩
  · rintro ⟨w, ns, name, ver, sub, q, hd, hb⟩
    exact ⟨w, w.ty, ns, name, ver, sub, q, hd, rfl, hb⟩

/-- the same for the typed parser: additionally the type as written must be a known name -/
theorem accepted_iff_spelling_typed (s : Str) (p : GPurl PkgType) :
    parseP U s = .ok p ↔
      ∃ (w : Pieces) (t : PkgType) (ns name ver sub : Str) (q : Quals), Decomposed U s w ns name ver sub q ∧
        PkgType.ofStr U w.ty = some t ∧
        buildP U ⟨t, { ns := ns, name := name, version := ver, quals := q, subpath := sub }⟩ = .ok p := by
  have hconv : ∀ a t, ((pkgShape U).fromStr a ()).1 = .ok t ↔ PkgType.ofStr U a = some t := by
    intro a t
    dsimp only [pkgShape]
    cases PkgType.ofStr U a <;> simp
  unfold parseP buildP
  rw [parseWith_ok_iff_spelling U (pkgShape U)]
  constructor
  · rintro ⟨w, t, ns, name, ver, sub, q, hd, ht, hb⟩
    exact ⟨w, t, ns, name, ver, sub, q, hd, (hconv _ _).1 ht, hb⟩
  · rintro ⟨w, t, ns, name, ver, sub, q, hd, ht, hb⟩
    exact ⟨w, t, ns, name, ver, sub, q, hd, (hconv _ _).2 ht, hb⟩

/-- a string that is not an assembled legal spelling is refused -/
theorem not_a_spelling_refused (s : Str) (h : ¬ ∃ w : Pieces, w.Ok ∧ s = w.assemble) :
    ∃ f, parseS U s = .error f := by
  cases hp : parseS U s with
  | error f => exact ⟨f, rfl⟩
  | ok p =>
    obtain ⟨w, _, _, _, _, _, hd, _⟩ := (accepted_iff_spelling U s p).1 hp
    exact absurd ⟨w, hd.ok, hd.eq⟩ h

/-! ### non-vacuity -/
/-- `pkg://%41/n@1` : a percent-encoded type in an otherwise valid spelling -/
def wBadType : Pieces := ⟨1, ['%', '4', '1'], none, ['n'], some ['1'], none, none⟩
/-- `pkg:t/a%2Fb/n` : a namespace segment hiding a '/' -/
def wHiddenSlash : Pieces := ⟨0, ['t'], some ['a', '%', '2', 'F', 'b'], ['n'], none, none, none⟩

example : wBadType.Sep := by
  unfold wBadType
  exact ⟨by decide +kernel, by decide +kernel, by decide +kernel, by decide +kernel, by decide +kernel, by decide +kernel⟩
example : wBadType.subR = .ok [] ∧ wBadType.qualsR U = .ok [] ∧ isValidType wBadType.ty = false :=
  ⟨rfl, rfl, by decide +kernel⟩
example : wHiddenSlash.Sep := by
  unfold wHiddenSlash
  exact ⟨by decide +kernel, by decide +kernel, by decide +kernel, by decide +kernel, by decide +kernel, by decide +kernel⟩
example : wHiddenSlash.nsR = .error .invalidEscape := by decide +kernel

example : stripPrefix schemePrefix ['h', 't', 't', 'p', ':'] = none := by decide +kernel
example : isValidType ['%', '4', '1'] = false ∧ isValidKey ['k', '!'] = false := by decide +kernel

theorem typed_errors_rust (s : Str) (g : GPurl Str) (h : parseS rustUnicode s = .ok g) :
    ((∀ t : PkgType, g.ty ≠ t.name) → parseP rustUnicode s = fail .unsupportedType) :=
  (typed_errors rustUnicode s g h).1

end Purl.C05
