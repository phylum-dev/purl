/-
  C09 — the builder is faithful and serialisation loses nothing.
-/
import PurlModel.Ops
import PurlModel.Lemmas.RoundTrip
import PurlModel.Props.C08
import PurlModel.Lemmas.QualsStep
import PurlModel.Lemmas.RustUnicode
namespace Purl.C09
open Purl Purl.Generated

set_option linter.unusedSectionVars false
variable (U : UnicodeOps) [LawfulUnicode U]

/-- the plain field setters and the slot each writes -/
inductive Slot where
  | ty | ns | name | ver | sub
  deriving DecidableEq

def slotOf {τ : Type} : BOp τ → Option Slot
  | .ns _ | .noNs | .pNs _ => some .ns
  | .name _ | .pName _ => some .name
  | .ver _ | .noVer | .pVer _ => some .ver
  | .sub _ | .noSub | .pSub _ => some .sub
  | .ty _ => some .ty
  | _ => none

/-- what a plain setter writes -/
def setField {τ : Type} (b : GPurl τ) : BOp τ → GPurl τ
  | .ns s | .pNs s => { b with parts := { b.parts with ns := s } }
  | .noNs => { b with parts := { b.parts with ns := [] } }
  | .name s | .pName s => { b with parts := { b.parts with name := s } }
  | .ver s | .pVer s => { b with parts := { b.parts with version := s } }
  | .noVer => { b with parts := { b.parts with version := [] } }
  | .sub s | .pSub s => { b with parts := { b.parts with subpath := s } }
  | .noSub => { b with parts := { b.parts with subpath := [] } }
  | .ty t => { b with ty := t }
  | _ => b

/-- a plain setter never fails and writes exactly its slot -/
theorem setter_apply {τ : Type} (b : GPurl τ) (op : BOp τ) (s : Slot) (h : slotOf op = some s) :
    op.apply U b = .ok (.unit, setField b op) := by
  cases op <;> cases h <;> rfl

/-- copy the field `s` of `src` into `dst` -/
def Slot.put {τ : Type} (s : Slot) (src dst : GPurl τ) : GPurl τ :=
  match s with
  | .ty => { dst with ty := src.ty }
  | .ns => { dst with parts := { dst.parts with ns := src.parts.ns } }
  | .name => { dst with parts := { dst.parts with name := src.parts.name } }
  | .ver => { dst with parts := { dst.parts with version := src.parts.version } }
  | .sub => { dst with parts := { dst.parts with subpath := src.parts.subpath } }

theorem setField_eq_put {τ : Type} {op : BOp τ} {s : Slot} (h : slotOf op = some s) (c : GPurl τ) :
    ∃ x, ∀ b, setField b op = s.put x b :=
  ⟨setField c op, by cases op <;> cases h <;> exact fun _ => rfl⟩

theorem Slot.put_put {τ : Type} (s : Slot) (x y b : GPurl τ) : s.put y (s.put x b) = s.put y b := by
  cases s <;> rfl

theorem Slot.put_comm {τ : Type} {s t : Slot} (h : s ≠ t) (x y b : GPurl τ) :
    t.put y (s.put x b) = s.put x (t.put y b) := by
  cases s <;> cases t <;> first | rfl | exact absurd rfl h

/-- later calls override earlier ones on the same slot -/
theorem setter_overrides {τ : Type} (b : GPurl τ) (op1 op2 : BOp τ) (s : Slot) (h1 : slotOf op1 = some s)
    (h2 : slotOf op2 = some s) : setField (setField b op1) op2 = setField b op2 := by
  obtain ⟨x, hx⟩ := setField_eq_put h1 b
  obtain ⟨y, hy⟩ := setField_eq_put h2 b
  simp only [hx, hy, Slot.put_put]

/-- calls on different slots commute -/
theorem setters_commute {τ : Type} (b : GPurl τ) (op1 op2 : BOp τ) (s1 s2 : Slot) (h1 : slotOf op1 = some s1)
    (h2 : slotOf op2 = some s2) (hne : s1 ≠ s2) :
    setField (setField b op1) op2 = setField (setField b op2) op1 := by
  obtain ⟨x, hx⟩ := setField_eq_put h1 b
  obtain ⟨y, hy⟩ := setField_eq_put h2 b
  simp only [hx, hy, Slot.put_comm hne]

/-- `with_qualifier`: refused for an invalid key (the builder is consumed), otherwise the map update
at the lower-cased key (qualifier calls on different keys commute: C11.insert_commutes) -/
theorem with_qualifier_spec {τ : Type} (b : GPurl τ) (k v : Str) :
    (isValidKey k = false → (BOp.qual k v).apply U b = fail .invalidQualifier) ∧
    (isValidKey k = true → (BOp.qual k v).apply U b =
        .ok (.ok, { b with parts := { b.parts with quals := upsert (asciiLower k) v b.parts.quals } })) := by
  constructor
  · intro h; unfold BOp.apply; simp only [insert_invalid U h]; rfl
  · intro h; unfold BOp.apply; simp only [insert_valid U h]

/-- every builder call keeps the qualifier collection's invariant -/
theorem apply_keeps_inv {τ : Type} (b b' : GPurl τ) (op : BOp τ) (o : BOut) (hq : QInv b.parts.quals)
    (h : op.apply U b = .ok (o, b')) : QInv b'.parts.quals := by
  cases op
  case qual k v =>
    dsimp only [BOp.apply] at h
    split at h
    · rename_i hi; cases h; exact insert_inv U hq hi
    · cases h
  case noQual _ | noTypedQual _ | noCksum =>
    dsimp only [BOp.apply] at h
    split at h
    · rename_i hr; cases h; exact remove_inv U hq hr
    · cases h
  case noQuals => cases h; exact QInv_nil
  case typedQual n v =>
    dsimp only [BOp.apply] at h
    split at h
    · rename_i hi; cases h; exact insertTyped_inv U hq hi
    · cases h
  case cksum script =>
    dsimp only [BOp.apply] at h
    split at h
    · cases h
    · split at h
      · cases h
      · split at h
        · rename_i hi; cases h; exact insertTyped_inv U hq hi
        · cases h
  case pQual op =>
    dsimp only [BOp.apply] at h
    split at h
    · rename_i hs; cases h; exact step_inv U hq hs
    · cases h
  -- the field setters leave the qualifiers alone
  all_goals cases h; exact hq

/-- the checksum qualifier (if any, after dropping empty values) is well-formed -/
def ChecksumOk (U : UnicodeOps) (q : Quals) : Prop :=
  ∀ text, lookup (nonEmptyQuals q) checksumKey = some text → ∃ ck t, Cksum.ofText U text = .ok ck ∧ ck.toText = .ok t

theorem postFinish_ok_iff {τ ε : Type} (lift : PErr → ε) (ty : τ) (parts : Parts) (hq : QInv parts.quals) :
    (∃ p, postFinish U lift ty parts = .ok p) ↔ (parts.name ≠ [] ∧ ChecksumOk U parts.quals) := by
  constructor
  · rintro ⟨p, h⟩
    obtain ⟨hne, q, hf, _⟩ := postFinish_eq_ok.1 h
    refine ⟨hne, ?_⟩
    intro text hl
    rcases fixQuals_ok U hq hf with ⟨hnone, _⟩ | ⟨text', ck, t, hl', ho, ht, _⟩
    · rw [hnone] at hl; cases hl
    · rw [hl'] at hl; simp at hl; subst hl; exact ⟨ck, t, ho, ht⟩
  · rintro ⟨hne, hc⟩
    rw [postFinish_eq, fixQuals_eq, lookupS_eq_lookup (QInv_nonEmptyQuals hq).1, if_neg (by simpa using hne)]
    cases hl : lookup (nonEmptyQuals parts.quals) checksumKey with
    | none => exact ⟨_, rfl⟩
    | some text =>
      obtain ⟨ck, t, ho, ht⟩ := hc text hl
      simp only [ho, ht]
      exact ⟨_, rfl⟩

/-- String type parameter: build() succeeds exactly when the name is non-empty, the type is valid and
any checksum is well-formed (invalid keys were already refused by `with_qualifier`) -/
theorem buildS_ok_iff (b : GPurl Str) (hq : QInv b.parts.quals) :
    (∃ p, buildS U b = .ok p) ↔ (b.parts.name ≠ [] ∧ isValidType b.ty = true ∧ ChecksumOk U b.parts.quals) := by
  rw [buildS_eq]
  cases hv : isValidType b.ty with
  | false => simp [fail]
  | true =>
    simp only [Bool.not_true, Bool.false_eq_true, if_false]
    rw [postFinish_ok_iff U id (asciiLower b.ty) b.parts hq]
    simp

/-- PackageType: additionally the type's own rule (maven needs a namespace with a segment) -/
theorem buildP_ok_iff (b : GPurl PkgType) (hq : QInv b.parts.quals) :
    (∃ p, buildP U b = .ok p) ↔
      (b.parts.name ≠ [] ∧ (b.ty = .Maven → trimMatches '/' b.parts.ns ≠ []) ∧ ChecksumOk U b.parts.quals) := by
  rw [buildP_eq, pkgFinish_eq]
  by_cases hm : b.ty = .Maven ∧ (trimMatches '/' b.parts.ns).isEmpty = true
  · rw [if_pos hm]
    exact ⟨fun ⟨p, h⟩ => (by cases h), fun ⟨_, h, _⟩ => absurd (List.isEmpty_iff.1 hm.2) (h hm.1)⟩
  · rw [if_neg hm]
    dsimp only
    rw [postFinish_ok_iff U PkgErr.parse b.ty { b.parts with name := fixName U b.ty b.parts.name } hq]
    have hname : fixName U b.ty b.parts.name ≠ [] ↔ b.parts.name ≠ [] :=
      ⟨fun h e => h (by rw [e, fixName_nil]), fixName_ne_nil U b.ty⟩
    have hmaven : b.ty = .Maven → trimMatches '/' b.parts.ns ≠ [] := fun h1 e => hm ⟨h1, by rw [e]; rfl⟩
    exact ⟨fun ⟨h1, h2⟩ => ⟨hname.1 h1, hmaven, h2⟩, fun ⟨h1, _, h2⟩ => ⟨hname.2 h1, h2⟩⟩

/-- on success the accessors return what was last set: type lower-cased, empty-valued qualifiers
dropped, everything else but the checksum as is -/
theorem buildS_accessors (b p : GPurl Str) (hq : QInv b.parts.quals) (h : buildS U b = .ok p) :
    p.ty = asciiLower b.ty ∧ p.parts.ns = b.parts.ns ∧ p.parts.name = b.parts.name ∧
    p.parts.version = b.parts.version ∧ p.parts.subpath = b.parts.subpath ∧
    (∀ k, k ≠ checksumKey → lookup p.parts.quals k = (lookup b.parts.quals k).filter (fun v => !v.isEmpty)) := by
  rw [buildS_eq] at h
  split at h
  · cases h
  have hl := fun k hk => postFinish_lookup U id hq h (k := k) hk
  obtain ⟨_, q, _, rfl⟩ := postFinish_eq_ok.1 h
  exact ⟨rfl, rfl, rfl, rfl, rfl, hl⟩

/-- the string form of a built PURL is accepted by the parser and yields the same field values
(namespace / subpath without their insignificant segments): no character put into any field is
lost, merged into another field or reinterpreted -/
theorem built_string_roundtrip (b p : GPurl Str) (hq : QInv b.parts.quals) (h : buildS U b = .ok p) :
    parseS U (formatParts p.ty p.parts) = .ok ⟨p.ty, normSegs p.parts⟩ := by
  obtain ⟨hb, _, hv, hl⟩ := buildS_props U hq h
  exact parseS_format_any U p hb hv hl

/-- the same for the typed PURL: the printed string parses to the normalised value, provided
the type's rule still holds after normalisation (for maven: it does, the rule looks at the segments) -/
theorem built_typed_roundtrip (b p : GPurl PkgType) (hq : QInv b.parts.quals) (h : buildP U b = .ok p) :
    parseP U (formatParts p.ty.name p.parts) =
      (match pkgFinish U p.ty (normSegs p.parts) with
       | .error e => fail e
       | .ok ps => .ok ⟨p.ty, ps⟩) := by
  obtain ⟨hb, _⟩ := buildP_props U hq h
  have hty := C15.name_valid p.ty
  have hlow := C15.name_lower p.ty
  have hg : parseS U (formatParts p.ty.name p.parts) = .ok ⟨p.ty.name, normSegs p.parts⟩ :=
    parseS_format_any U ⟨p.ty.name, p.parts⟩ (hb.of_eq rfl rfl) hty hlow
  exact (C08.typed_vs_generic U _ _ hg).1 p.ty rfl

theorem built_string_roundtrip_rust (b p : GPurl Str) (hq : QInv b.parts.quals) (h : buildS rustUnicode b = .ok p) :
    parseS rustUnicode (formatParts p.ty p.parts) = .ok ⟨p.ty, normSegs p.parts⟩ :=
  built_string_roundtrip rustUnicode b p hq h

end Purl.C09
