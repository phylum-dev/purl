/-
  C02 — parsing recovers exactly the components of any legal spelling.

  `parse_any_spelling` (`parse_of_pieces`) is the structural core: for any string assembled from
  component spellings — any number of slashes after `pkg:`, the type in any letter case, raw '#',
  '?', '@' everywhere to the left of the occurrence that right-to-left splitting designates
  (`Pieces.Ok`) — the parser returns `build()` of exactly the decoded components.  The remaining
  freedoms are those of the component decoders and of `build()`, each proved below: percent-spelling
  (raw / %XY in either hex case), extra '/' and raw '.'/'..' segments, letter case of type and keys,
  order of the qualifier items (`qualifier_order_irrelevant`).  Two spellings with the same decoded
  components therefore give the same PURL and the same canonical string.
-/
import PurlModel.Lemmas.Pieces
import PurlModel.Lemmas.QualOrder
import PurlModel.Lemmas.NormPaths
import PurlModel.Lemmas.PctSpelling
import PurlModel.Lemmas.Spells
import PurlModel.Lemmas.PctComplete
import PurlModel.Props.C05
import PurlModel.Props.C07
import PurlModel.Lemmas.RustUnicode
namespace Purl.C02
open Purl Purl.Generated

variable (U : UnicodeOps) [LawfulUnicode U]

/-- any assembled spelling parses to `build()` of the decoded components -/
theorem parse_any_spelling (w : Pieces) (ok : w.Ok) (ns name ver sub : Str) (q : Quals)
    (hsub : match w.sub with | some x => decodeSubpath x = .ok sub | none => sub = [])
    (hq : match w.quals with | some x => decodeQualifiers U x [] = .ok q | none => q = [])
    (hns : match w.ns with | some x => decodeNamespace x = .ok ns | none => ns = [])
    (hname : decode w.name = .ok name)
    (hver : match w.ver with | some x => decode x = .ok ver | none => ver = []) :
    parseS U w.assemble = buildS U ⟨w.ty, { ns := ns, name := name, version := ver, quals := q, subpath := sub }⟩ :=
  parse_of_pieces U w ok ns name ver sub q hsub hq hns hname hver

theorem opt_imp {A A' : Str → Prop} {B B' : Prop} {o : Option Str} (hs : ∀ x, A x → A' x) (hn : B → B')
    (h : match o with | some x => A x | none => B) :
    match (generalizing := false) o with | some x => A' x | none => B' := by
  cases o with
  | some x => exact hs x h
  | none => exact hn h

/-- two spellings whose pieces decode to the same components, with types equal up to letter case,
give the same result -/
theorem spellings_agree (w₁ w₂ : Pieces) (ok₁ : w₁.Ok) (ok₂ : w₂.Ok) (hty : asciiLower w₁.ty = asciiLower w₂.ty)
    (ns name ver sub : Str) (q : Quals)
    (h₁ : (match w₁.sub with | some x => decodeSubpath x = .ok sub | none => sub = []) ∧
          (match w₁.quals with | some x => decodeQualifiers U x [] = .ok q | none => q = []) ∧
          (match w₁.ns with | some x => decodeNamespace x = .ok ns | none => ns = []) ∧
          decode w₁.name = .ok name ∧ (match w₁.ver with | some x => decode x = .ok ver | none => ver = []))
    (h₂ : (match w₂.sub with | some x => decodeSubpath x = .ok sub | none => sub = []) ∧
          (match w₂.quals with | some x => decodeQualifiers U x [] = .ok q | none => q = []) ∧
          (match w₂.ns with | some x => decodeNamespace x = .ok ns | none => ns = []) ∧
          decode w₂.name = .ok name ∧ (match w₂.ver with | some x => decode x = .ok ver | none => ver = [])) :
    parseS U w₁.assemble = parseS U w₂.assemble := by
  obtain ⟨hsub₁, hq₁, hns₁, hname₁, hver₁⟩ := h₁
  obtain ⟨hsub₂, hq₂, hns₂, hname₂, hver₂⟩ := h₂
  rw [parse_any_spelling U w₁ ok₁ ns name ver sub q hsub₁ hq₁ hns₁ hname₁ hver₁,
      parse_any_spelling U w₂ ok₂ ns name ver sub q hsub₂ hq₂ hns₂ hname₂ hver₂]
  -- build() only sees the lower-cased type
  simp only [buildS_eq, ok₁.ty_valid, ok₂.ty_valid, hty]

/-- `w` with its qualifier part replaced by the given items joined with '&' -/
def withItems (w : Pieces) (items : List Str) : Pieces := { w with quals := some (joinWith '&' items) }

/-- Qualifier order is irrelevant: writing the qualifier items `key=value` of a spelling in any other
order gives a string that parses to the same result.  Each `(item, k, d)` is an item as written with
its lower-cased key and decoded value (`ItemOk`); an item with an empty value contributes nothing. -/
theorem qualifier_order_irrelevant (w : Pieces) (a b : List (Str × Str × Str)) (hperm : a.Perm b) (hne : a ≠ [])
    (hok : ∀ x ∈ a, ItemOk x.1 x.2.1 x.2.2) (hamp : ∀ x ∈ a, '&' ∉ x.1) (hnd : (a.map (·.2.1)).Nodup)
    (ok : (withItems w (a.map (·.1))).Ok)
    (ns name ver sub : Str)
    (hsub : match w.sub with | some x => decodeSubpath x = .ok sub | none => sub = [])
    (hns : match w.ns with | some x => decodeNamespace x = .ok ns | none => ns = [])
    (hname : decode w.name = .ok name)
    (hver : match w.ver with | some x => decode x = .ok ver | none => ver = []) :
    parseS U (withItems w (a.map (·.1))).assemble = parseS U (withItems w (b.map (·.1))).assemble := by
  obtain ⟨q, hqa, hqb⟩ := qualItems_order_irrelevant U a b hperm hok hnd
  have hbne : b ≠ [] := fun e => hne (by rw [e] at hperm; exact hperm.eq_nil)
  have okb : (withItems w (b.map (·.1))).Ok := Pieces.Ok.reorder (hperm.map _) ok
  have da : decodeQualifiers U (joinWith '&' (a.map (·.1))) [] = .ok q :=
    (decodeQualifiers_joinWith U (mt List.map_eq_nil_iff.1 hne) (List.forall_mem_map.2 hamp) []).trans hqa
  have db : decodeQualifiers U (joinWith '&' (b.map (·.1))) [] = .ok q :=
    (decodeQualifiers_joinWith U (mt List.map_eq_nil_iff.1 hbne)
      (List.forall_mem_map.2 fun x hx => hamp x (hperm.symm.subset hx)) []).trans hqb
  rw [parse_any_spelling U _ ok ns name ver sub q hsub da hns hname hver,
      parse_any_spelling U _ okb ns name ver sub q hsub db hns hname hver]
  rfl

/-! ### the legal spellings of a component tuple

The spelling relations (Lemmas/Spells.lean, Lemmas/PctSpelling.lean): `NsSp` / `SubSp` (pieces
between raw '/': each segment percent-spelled, empty pieces anywhere, for the subpath also raw "."
and ".." pieces), `PctSp` (raw or %XY per char, either hex case), `ItemSp` (`Key=value`, key in any
letter case).  Together with `Pieces` they generate the legal spellings of the tuple
(type, namespace segments, name, version, qualifier content, subpath segments). -/

theorem quals_spelled (o : Option Str) (items : List (Str × Str × Str))
    (hq : match o with
      | some x => items ≠ [] ∧ x = joinWith '&' (items.map (·.1)) ∧
          (∀ it ∈ items, ItemSp it.1 it.2.1 it.2.2) ∧ (items.map (·.2.1)).Nodup
      | none => items = []) :
    ∃ q, QInv q ∧ (∀ p, lookup q p = contentLookup items p) ∧
      (match (generalizing := false) o with | some x => decodeQualifiers U x [] = .ok q | none => q = []) := by
  cases o with
  | none => subst hq; exact ⟨[], QInv_nil, fun _ => rfl, rfl⟩
  | some x =>
    obtain ⟨hne, rfl, hsp, hnd⟩ := hq
    obtain ⟨q, hq1, hq2, hq3⟩ :=
      qualItems_of_distinct U items [] QInv_nil (fun it h => (hsp it h).ok) hnd (fun _ _ => rfl)
    refine ⟨q, hq2, fun p => (hq3 p).trans Option.or_none, ?_⟩
    -- no item contains a raw '&', so splitting the joined text gives the items back
    refine (decodeQualifiers_joinWith U (by simpa using hne) ?_ []).trans hq1
    intro p hp
    obtain ⟨it, hit, rfl⟩ := List.mem_map.1 hp
    exact (hsp it hit).no_amp

theorem spells_decoded (w : Pieces) (nsSegs subSegs : List Str) (name ver : Str)
    (items : List (Str × Str × Str))
    (hns : match w.ns with
      | some x => ∃ ps, ps ≠ [] ∧ x = joinWith '/' ps ∧ NsSp nsSegs ps
      | none => nsSegs = [])
    (hname : PctSp name w.name)
    (hver : match w.ver with | some x => PctSp ver x | none => ver = [])
    (hq : match w.quals with
      | some x => items ≠ [] ∧ x = joinWith '&' (items.map (·.1)) ∧
          (∀ it ∈ items, ItemSp it.1 it.2.1 it.2.2) ∧ (items.map (·.2.1)).Nodup
      | none => items = [])
    (hsub : match w.sub with
      | some x => ∃ ps, ps ≠ [] ∧ x = joinWith '/' ps ∧ SubSp subSegs ps
      | none => subSegs = []) :
    ∃ q, QInv q ∧ (∀ p, lookup q p = contentLookup items p) ∧
      (match w.sub with | some x => decodeSubpath x = .ok (joinWith '/' subSegs) | none => joinWith '/' subSegs = []) ∧
      (match w.quals with | some x => decodeQualifiers U x [] = .ok q | none => q = []) ∧
      (match w.ns with | some x => decodeNamespace x = .ok (joinWith '/' nsSegs) | none => joinWith '/' nsSegs = []) ∧
      decode w.name = .ok name ∧
      (match w.ver with | some x => decode x = .ok ver | none => ver = []) := by
  obtain ⟨q, hq1, hq2, hqd⟩ := quals_spelled U w.quals items hq
  exact ⟨q, hq1, hq2,
    opt_imp (fun x ⟨ps, hne, e, hsp⟩ => e ▸ decodeSubpath_spelled hsp hne) (fun e => by subst e; rfl) hsub,
    hqd,
    opt_imp (fun x ⟨ps, hne, e, hsp⟩ => e ▸ decodeNamespace_spelled hsp hne) (fun e => by subst e; rfl) hns,
    Purl.pct_spelling_decodes name w.name hname,
    opt_imp (fun x h => Purl.pct_spelling_decodes ver x h) id hver⟩

/-- Any spelling of a tuple parses to `build()` of the tuple.  The right-hand side mentions only the
components (and the type as written, whose letter case `build()` removes): the escapes, hex case,
extra slashes, dot pieces, key case, item order and empty-valued items of the spelling do not matter. -/
theorem parse_spells (w : Pieces) (ok : w.Ok) (nsSegs subSegs : List Str) (name ver : Str)
    (items : List (Str × Str × Str))
    (hns : match w.ns with
      | some x => ∃ ps, ps ≠ [] ∧ x = joinWith '/' ps ∧ NsSp nsSegs ps
      | none => nsSegs = [])
    (hname : PctSp name w.name)
    (hver : match w.ver with | some x => PctSp ver x | none => ver = [])
    (hq : match w.quals with
      | some x => items ≠ [] ∧ x = joinWith '&' (items.map (·.1)) ∧
          (∀ it ∈ items, ItemSp it.1 it.2.1 it.2.2) ∧ (items.map (·.2.1)).Nodup
      | none => items = [])
    (hsub : match w.sub with
      | some x => ∃ ps, ps ≠ [] ∧ x = joinWith '/' ps ∧ SubSp subSegs ps
      | none => subSegs = []) :
    ∃ q, QInv q ∧ (∀ p, lookup q p = contentLookup items p) ∧
      parseS U w.assemble = buildS U ⟨w.ty, { ns := joinWith '/' nsSegs, name := name, version := ver,
                                               quals := q, subpath := joinWith '/' subSegs }⟩ := by
  obtain ⟨q, h1, h2, d1, d2, d3, d4, d5⟩ := spells_decoded U w nsSegs subSegs name ver items hns hname hver hq hsub
  exact ⟨q, h1, h2, parse_of_pieces U w ok _ _ _ _ q d1 d2 d3 d4 d5⟩

/-- the same for the typed parser (the type, in any letter case, being one of the known ones) -/
theorem parseP_spells (w : Pieces) (ok : w.Ok) (t : PkgType) (ht : PkgType.ofStr U w.ty = some t)
    (nsSegs subSegs : List Str) (name ver : Str) (items : List (Str × Str × Str))
    (hns : match w.ns with
      | some x => ∃ ps, ps ≠ [] ∧ x = joinWith '/' ps ∧ NsSp nsSegs ps
      | none => nsSegs = [])
    (hname : PctSp name w.name)
    (hver : match w.ver with | some x => PctSp ver x | none => ver = [])
    (hq : match w.quals with
      | some x => items ≠ [] ∧ x = joinWith '&' (items.map (·.1)) ∧
          (∀ it ∈ items, ItemSp it.1 it.2.1 it.2.2) ∧ (items.map (·.2.1)).Nodup
      | none => items = [])
    (hsub : match w.sub with
      | some x => ∃ ps, ps ≠ [] ∧ x = joinWith '/' ps ∧ SubSp subSegs ps
      | none => subSegs = []) :
    ∃ q, QInv q ∧ (∀ p, lookup q p = contentLookup items p) ∧
      parseP U w.assemble = buildP U ⟨t, { ns := joinWith '/' nsSegs, name := name, version := ver,
                                            quals := q, subpath := joinWith '/' subSegs }⟩ := by
  obtain ⟨q, h1, h2, d1, d2, d3, d4, d5⟩ := spells_decoded U w nsSegs subSegs name ver items hns hname hver hq hsub
  exact ⟨q, h1, h2, parseP_of_pieces U w ok t ht _ _ _ _ q d1 d2 d3 d4 d5⟩

/-- two spellings of the same components (types equal up to letter case, same qualifier content)
parse to the same result -/
theorem spellings_of_one_tuple_agree (w₁ w₂ : Pieces) (ok₁ : w₁.Ok) (ok₂ : w₂.Ok) (hty : asciiLower w₁.ty = asciiLower w₂.ty)
    (nsSegs subSegs : List Str) (name ver : Str) (items₁ items₂ : List (Str × Str × Str))
    (hcontent : ∀ p, contentLookup items₁ p = contentLookup items₂ p)
    (hns₁ : match w₁.ns with | some x => ∃ ps, ps ≠ [] ∧ x = joinWith '/' ps ∧ NsSp nsSegs ps | none => nsSegs = [])
    (hns₂ : match w₂.ns with | some x => ∃ ps, ps ≠ [] ∧ x = joinWith '/' ps ∧ NsSp nsSegs ps | none => nsSegs = [])
    (hname₁ : PctSp name w₁.name) (hname₂ : PctSp name w₂.name)
    (hver₁ : match w₁.ver with | some x => PctSp ver x | none => ver = [])
    (hver₂ : match w₂.ver with | some x => PctSp ver x | none => ver = [])
    (hq₁ : match w₁.quals with
      | some x => items₁ ≠ [] ∧ x = joinWith '&' (items₁.map (·.1)) ∧
          (∀ it ∈ items₁, ItemSp it.1 it.2.1 it.2.2) ∧ (items₁.map (·.2.1)).Nodup
      | none => items₁ = [])
    (hq₂ : match w₂.quals with
      | some x => items₂ ≠ [] ∧ x = joinWith '&' (items₂.map (·.1)) ∧
          (∀ it ∈ items₂, ItemSp it.1 it.2.1 it.2.2) ∧ (items₂.map (·.2.1)).Nodup
      | none => items₂ = [])
    (hsub₁ : match w₁.sub with | some x => ∃ ps, ps ≠ [] ∧ x = joinWith '/' ps ∧ SubSp subSegs ps | none => subSegs = [])
    (hsub₂ : match w₂.sub with | some x => ∃ ps, ps ≠ [] ∧ x = joinWith '/' ps ∧ SubSp subSegs ps | none => subSegs = []) :
    parseS U w₁.assemble = parseS U w₂.assemble := by
  obtain ⟨q₁, i₁, l₁, e₁⟩ := parse_spells U w₁ ok₁ nsSegs subSegs name ver items₁ hns₁ hname₁ hver₁ hq₁ hsub₁
  obtain ⟨q₂, i₂, l₂, e₂⟩ := parse_spells U w₂ ok₂ nsSegs subSegs name ver items₂ hns₂ hname₂ hver₂ hq₂ hsub₂
  have : q₁ = q₂ := QInv.ext i₁.1 i₂.1 (fun p => by rw [l₁ p, l₂ p, hcontent p])
  subst this
  rw [e₁, e₂]
  simp only [buildS_eq, ok₁.ty_valid, ok₂.ty_valid, hty]

/-! non-vacuity: `pkg:t/a//b/%6E@1?K=v#./x` spells (t, [a, b], n, 1, {k ↦ v}, [x]) -/
def wExample : Pieces :=
  ⟨0, ['t'], some ['a', '/', '/', 'b'], ['%', '6', 'E'], some ['1'], some ['K', '=', 'v'], some ['.', '/', 'x']⟩

theorem pctSp_raw1 (c : Char) (h : c ≠ '%') : PctSp [c] [c] := PctSp.raw c [] [] h PctSp.nil

example : wExample.Ok := by
  unfold wExample
  exact ⟨by decide +kernel, by decide +kernel, by decide +kernel, by decide +kernel, by decide +kernel⟩
example : NsSp [['a'], ['b']] [['a'], [], ['b']] :=
  .seg _ _ _ _ (by decide +kernel) (by decide +kernel) (pctSp_raw1 'a' (by decide +kernel))
    (.empty _ _ (.seg _ _ _ _ (by decide +kernel) (by decide +kernel) (pctSp_raw1 'b' (by decide +kernel)) .nil))
example : ['a', '/', '/', 'b'] = joinWith '/' [['a'], [], ['b']] := by decide +kernel
example : PctSp ['n'] ['%', '6', 'E'] :=
  PctSp.pct 'n' ['%', '6', 'E'] [] [] (BytesSp.cons 0x6E '6' 'E' [] [] (by decide +kernel) (by decide +kernel) BytesSp.nil) PctSp.nil
example : ItemSp ['K', '=', 'v'] ['k'] ['v'] :=
  ⟨['K'], ['v'], rfl, by decide +kernel, by decide +kernel, pctSp_raw1 'v' (by decide +kernel), by decide +kernel⟩
example : SubSp [['x']] [['.'], ['x']] :=
  .skip _ _ _ (by decide +kernel) (.seg _ _ _ _ (by decide +kernel) (by decide +kernel) (by decide +kernel) (by decide +kernel) (pctSp_raw1 'x' (by decide +kernel)) .nil)

/-! ### percent-spelling freedom -/

/-- every percent-spelling of a component decodes to it: raw chars (incl. raw UTF-8) and escapes with
either hex case, in any mixture -/
theorem pct_spelling_decodes (s w : Str) (h : PctSp s w) : decode w = .ok s :=
  Purl.pct_spelling_decodes s w h

/-- The decoder, exactly: a written component `w` decodes to `s` iff `w` spells `s` char by char — each
char raw, or all its UTF-8 bytes as `%XY` escapes (either hex case per digit), or a '%' that is
followed by no two hex digits and stands for itself (`PctSpx`, Lemmas/PctComplete.lean).  ⇒ says
there is no other way to obtain `s`: a char is never split between raw bytes and escapes. -/
theorem component_decodes_iff (w s : Str) : decode w = .ok s ↔ PctSpx s w := decode_ok_iff w s

/-- two written components denote the same value exactly when they spell the same string -/
theorem same_component_iff (w₁ w₂ s : Str) (h₁ : decode w₁ = .ok s) :
    decode w₂ = .ok s ↔ PctSpx s w₂ := decode_ok_iff w₂ s

/-- what does not spell anything is refused with InvalidEscape (and only that) -/
theorem undecodable_iff (w : Str) : decode w = .error .invalidEscape ↔ ¬ ∃ s, PctSpx s w := by
  constructor
  · rintro h ⟨s, hs⟩
    rw [pctSpx_decodes s w hs] at h
    cases h
  · intro h
    unfold decode
    cases hd : utf8Dec? (pctDecode (utf8 w)) with
    | none => rfl
    | some t =>
      exfalso
      apply h
      refine ⟨t, decodes_pctSpx ?_⟩
      unfold decode
      rw [hd]

/-- non-vacuity: `%41b%c3%A9%zz%` spells `Abé%zz%` (escape, raw, two-byte char escaped in mixed hex case,
a '%' before non-hex, a trailing '%') — and `%c3x` spells nothing -/
example : decode "%41b%c3%A9%zz%".toList = .ok "Abé%zz%".toList := by decide +kernel
example : decode "%c3x".toList = .error .invalidEscape := by decide +kernel

/-- how each optional piece of an assembled string spells its component -/
structure Spelled (w : Pieces) (nsSegs subSegs : List Str) (name ver : Str) : Prop where
  ns : match w.ns with
    | some x => NsSpx nsSegs (splitOn '/' (trimMatches '/' x))
    | none => nsSegs = []
  name : PctSpx name w.name
  ver : match w.ver with
    | some x => PctSpx ver x
    | none => ver = []
  sub : match w.sub with
    | some x => SubSpx subSegs (splitOn '/' (trimMatches '/' x))
    | none => subSegs = []

theorem ns_piece_iff (o : Option Str) (ns : Str) :
    (match o with | some x => decodeNamespace x = .ok ns | none => ns = []) ↔
      ∃ segs, (match (generalizing := false) o with | some x => NsSpx segs (splitOn '/' (trimMatches '/' x)) | none => segs = []) ∧
        ns = joinWith '/' segs := by
  cases o with
  | some x => exact C07.namespace_segments_exactly x ns
  | none => exact ⟨fun h => ⟨[], rfl, h⟩, fun ⟨_, h, e⟩ => by subst h; exact e⟩

theorem sub_piece_iff (o : Option Str) (sub : Str) :
    (match o with | some x => decodeSubpath x = .ok sub | none => sub = []) ↔
      ∃ segs, (match (generalizing := false) o with | some x => SubSpx segs (splitOn '/' (trimMatches '/' x)) | none => segs = []) ∧
        sub = joinWith '/' segs := by
  cases o with
  | some x => exact C07.subpath_segments_exactly x sub
  | none => exact ⟨fun h => ⟨[], rfl, h⟩, fun ⟨_, h, e⟩ => by subst h; exact e⟩

theorem ver_piece_iff (o : Option Str) (ver : Str) :
    (match o with | some x => decode x = .ok ver | none => ver = []) ↔
      (match o with | some x => PctSpx ver x | none => ver = []) := by
  cases o with
  | some x => exact decode_ok_iff x ver
  | none => exact Iff.rfl

/-- The accepted language, generatively and exactly: the generic parser accepts `s` with result `p` iff
`s` is assembled (`Pieces.assemble`, `Pieces.Ok`) from pieces that spell components — namespace and
subpath piece-wise between raw '/' (`NsSpx`, `SubSpx`), name and version char-wise (`PctSpx`), the
qualifier text as its decoder reads it — and `build()` of those components gives `p`.  ⇐ is the
freedom of spelling (C02), ⇒ is "nothing else is accepted" (C05, C07). -/
theorem accepted_iff_generative (s : Str) (p : GPurl Str) :
    parseS U s = .ok p ↔
      ∃ (w : Pieces) (nsSegs subSegs : List Str) (name ver : Str) (q : Quals),
        w.Ok ∧ s = w.assemble ∧ Spelled w nsSegs subSegs name ver ∧
        (match w.quals with | some x => decodeQualifiers U x [] = .ok q | none => q = []) ∧
        buildS U ⟨w.ty, { ns := joinWith '/' nsSegs, name := name, version := ver, quals := q,
                          subpath := joinWith '/' subSegs }⟩ = .ok p := by
  rw [C05.accepted_iff_spelling]
  constructor
  · rintro ⟨w, ns, name, ver, sub, q, hd, hb⟩
    obtain ⟨nsSegs, hn1, rfl⟩ := (ns_piece_iff w.ns ns).1 hd.hns
    obtain ⟨subSegs, hs1, rfl⟩ := (sub_piece_iff w.sub sub).1 hd.hsub
    exact ⟨w, nsSegs, subSegs, name, ver, q, hd.ok, hd.eq,
      ⟨hn1, decodes_pctSpx hd.hname, (ver_piece_iff w.ver ver).1 hd.hver, hs1⟩, hd.hq, hb⟩
  · rintro ⟨w, nsSegs, subSegs, name, ver, q, hok, heq, hsp, hq, hb⟩
    exact ⟨w, joinWith '/' nsSegs, name, ver, joinWith '/' subSegs, q,
      ⟨hok, heq, (sub_piece_iff w.sub _).2 ⟨subSegs, hsp.sub, rfl⟩, hq, (ns_piece_iff w.ns _).2 ⟨nsSegs, hsp.ns, rfl⟩,
        pctSpx_decodes _ _ hsp.name, (ver_piece_iff w.ver ver).2 hsp.ver⟩, hb⟩

/-- an empty piece (doubled '/') anywhere in a namespace is insignificant -/
theorem namespace_empty_piece_insignificant (l₁ l₂ : List Str) : nsDecoded (l₁ ++ [] :: l₂) = nsDecoded (l₁ ++ l₂) := by
  rw [← nsDecoded_filter, ← nsDecoded_filter (l₁ ++ l₂)]
  simp [List.filter_append]

/-- a raw "", "." or ".." piece anywhere in a subpath is insignificant -/
theorem subpath_dot_piece_insignificant (l₁ l₂ : List Str) (d : Str) (hd : isDotSeg d = true) :
    subDecoded (l₁ ++ d :: l₂) = subDecoded (l₁ ++ l₂) := by
  induction l₁ with
  | nil => simp [subDecoded, hd]
  | cons p rest ih => simp only [List.cons_append, subDecoded, ih]

theorem namespace_outer_slashes_insignificant (s : Str) :
    nsDecoded (splitOn '/' (trimMatches '/' s)) = nsDecoded (splitOn '/' s) := nsDecoded_trim s

theorem subpath_outer_slashes_insignificant (s : Str) :
    subDecoded (splitOn '/' (trimMatches '/' s)) = subDecoded (splitOn '/' s) := subDecoded_trim s

/-- a key in any letter case designates the same entry -/
theorem key_case_irrelevant (q : Quals) (k k' v : Str) (hk : isValidKey k = true) (hk' : isValidKey k' = true)
    (h : asciiLower k = asciiLower k') : q.insert U k v = q.insert U k' v ∧ q.get U k = q.get U k' := by
  rw [insert_valid U hk, insert_valid U hk', h, get_eq U, get_eq U, hk, hk', h]
  exact ⟨rfl, rfl⟩

/-! ### non-vacuity: a spelling using several freedoms at once -/

/-- `é` written as `%c3%A9` (mixed hex case) after a raw `a` and before a raw `/` -/
example : PctSp ['a', 'é', '/'] ['a', '%', 'c', '3', '%', 'A', '9', '/'] := by
  apply PctSp.raw 'a' _ _ (by decide +kernel)
  have hb : BytesSp (String.utf8EncodeChar 'é') ['%', 'c', '3', '%', 'A', '9'] := by
    have : String.utf8EncodeChar 'é' = [0xC3, 0xA9] := by decide +kernel
    rw [this]
    exact BytesSp.cons 0xC3 'c' '3' _ _ (by decide +kernel) (by decide +kernel)
      (BytesSp.cons 0xA9 'A' '9' _ _ (by decide +kernel) (by decide +kernel) BytesSp.nil)
  have := PctSp.pct 'é' _ ['/'] ['/'] hb (PctSp.raw '/' [] [] (by decide +kernel) PctSp.nil)
  simpa using this

/-- raw '@' in an npm scope with a version, raw '#' in a qualifier value before the subpath -/
example : (⟨2, ['N', 'p', 'M'], some ['@', 'a'], ['b'], some ['1'], some ['k', '=', '#', 'x'], some ['s']⟩ : Pieces).Ok where
  ty_valid := by decide +kernel
  hash := by decide +kernel
  qmark := by decide +kernel
  at_ := by decide +kernel
  slash := by decide +kernel

theorem parse_any_spelling_rust (w : Pieces) (ok : w.Ok) (ns name ver sub : Str) (q : Quals)
    (hsub : match w.sub with | some x => decodeSubpath x = .ok sub | none => sub = [])
    (hq : match w.quals with | some x => decodeQualifiers rustUnicode x [] = .ok q | none => q = [])
    (hns : match w.ns with | some x => decodeNamespace x = .ok ns | none => ns = [])
    (hname : decode w.name = .ok name)
    (hver : match w.ver with | some x => decode x = .ok ver | none => ver = []) :
    parseS rustUnicode w.assemble =
      buildS rustUnicode ⟨w.ty, { ns := ns, name := name, version := ver, quals := q, subpath := sub }⟩ :=
  parse_any_spelling rustUnicode w ok ns name ver sub q hsub hq hns hname hver

end Purl.C02
