/-
  C10 — re-building an existing PURL is the identity.

  For every value p produced by the parser or by build(), with String, Cow<str>, SmallString
  (one function, C13) or PackageType: `p.into_builder().build()` succeeds and yields p itself
  (equal, identical string).  Rests on: the hook of each built-in shape is idempotent
  (type lower-casing; nuget/pypi name rules — needs exactly the LawfulUnicode laws), dropping
  empty qualifiers is idempotent, and the stored checksum text is a fixed point of
  parse-then-serialise.
-/
import PurlModel.Lemmas.Rebuild
import PurlModel.Lemmas.RustUnicode
namespace Purl.C10
open Purl Purl.Generated

variable (U : UnicodeOps) [LawfulUnicode U]

/-- generic form: any shape, any value on which the hook is the identity -/
theorem rebuild_generic {τ ε σ : Type} (S : Shape τ ε σ) (p : GPurl τ) (hb : Built U p) (hf : HookFixed S p) (st : σ) :
    (buildWith U S p st).1 = .ok p :=
  rebuild_id U S p hb hf st

theorem rebuild_parsed_string (s : Str) (p : GPurl Str) (h : parseS U s = .ok p) : buildS U p = .ok p := by
  obtain ⟨hb, _, _, hf⟩ := parseWith_props U _ stringShape_hookOk h
  exact rebuild_id U stringShape p hb hf ()

theorem rebuild_built_string (b p : GPurl Str) (hq : QInv b.parts.quals) (h : buildS U b = .ok p) : buildS U p = .ok p := by
  obtain ⟨hb, hf, _, _⟩ := buildS_props U hq h
  exact rebuild_id U stringShape p hb hf ()

theorem rebuild_parsed_typed (s : Str) (p : GPurl PkgType) (h : parseP U s = .ok p) : buildP U p = .ok p := by
  obtain ⟨hb, _, _, hf⟩ := parseP_props U h
  exact rebuild_id U (pkgShape U) p hb hf ()

theorem rebuild_built_typed (b p : GPurl PkgType) (hq : QInv b.parts.quals) (h : buildP U b = .ok p) : buildP U p = .ok p := by
  obtain ⟨hb, hf⟩ := buildP_props U hq h
  exact rebuild_id U (pkgShape U) p hb hf ()

theorem nuget_rule_idempotent (n : Str) : lowerInPlace U (lowerInPlace U n) = lowerInPlace U n := lowerInPlace_idem U n
theorem pypi_rule_idempotent (n : Str) : fixPypi U (fixPypi U n) = fixPypi U n := fixPypi_idem U n
theorem checksum_text_fixpoint (text t : Str) (ck : Cksum) (ho : Cksum.ofText U text = .ok ck) (ht : ck.toText = .ok t) :
    ∃ ck', Cksum.ofText U t = .ok ck' ∧ ck'.toText = .ok t := cksum_fixpoint U ho ht

/-- Cow: the same type string and parts as String (C13), so re-building a Cow value is re-building
its String image -/
theorem cow_hook_idempotent (owned : Bool) (v : Str) (parts : Parts) (t : CowStr) (ps : Parts)
    (h : (cowShape.finish (owned, v) parts ()).1 = .ok (t, ps)) :
    ∃ t', (cowShape.finish t ps ()).1 = .ok (t', ps) ∧ t'.2 = t.2 :=
  ⟨t, cowShape_hookOk.fixed h ps () rfl rfl, rfl⟩

theorem rebuild_parsed_typed_rust (s : Str) (p : GPurl PkgType) (h : parseP rustUnicode s = .ok p) :
    buildP rustUnicode p = .ok p := rebuild_parsed_typed rustUnicode s p h

end Purl.C10
