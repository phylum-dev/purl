/-
  The derived equality and ordering coincide with structural equality / form a total order.
-/
import PurlModel.RustOrd
import PurlModel.Lemmas.QualsInv
namespace Purl
open Generated

theorem keyEq_iff (U : UnicodeOps) [LawfulUnicode U] {k k' : Str} (hk' : KeyOk k') : keyEq U k k' = true ↔ k = k' := by
  unfold keyEq keyPartialCmp
  simp only [beq_iff_eq]
  rw [lowerFull_validKey U hk'.1, hk'.2, cmpStr_eq_iff]

theorem rustEqQuals_iff (U : UnicodeOps) [LawfulUnicode U] (a b : Quals) (hb : ∀ kv ∈ b, KeyOk kv.1) :
    rustEqQuals U a b = true ↔ a = b := by
  induction a generalizing b with
  | nil => cases b <;> simp [rustEqQuals]
  | cons x xs ih =>
    cases b with
    | nil => simp [rustEqQuals]
    | cons y ys =>
      obtain ⟨k, v⟩ := x
      obtain ⟨k', v'⟩ := y
      simp only [rustEqQuals, Bool.and_eq_true, beq_iff_eq, List.cons.injEq, Prod.mk.injEq]
      rw [keyEq_iff U (hb (k', v') (by simp)), ih ys (fun kv h => hb kv (by simp [h]))]

theorem rustEqParts_iff (U : UnicodeOps) [LawfulUnicode U] (a b : Parts) (hb : ∀ kv ∈ b.quals, KeyOk kv.1) :
    rustEqParts U a b = true ↔ a = b := by
  unfold rustEqParts
  simp only [Bool.and_eq_true, beq_iff_eq]
  rw [rustEqQuals_iff U a.quals b.quals hb]
  cases a; cases b
  simp only [Parts.mk.injEq, and_assoc]

theorem GPurl.ext {τ : Type} {a b : GPurl τ} (h1 : a.ty = b.ty) (h2 : a.parts = b.parts) : a = b := by
  cases a; cases b; cases h1; cases h2; rfl

theorem rustEqPurl_iff (U : UnicodeOps) [LawfulUnicode U] {τ : Type} {eqTy : τ → τ → Bool}
    (heq : ∀ x y, eqTy x y = true ↔ x = y) (a b : GPurl τ) (hb : QInv b.parts.quals) :
    rustEqPurl U eqTy a b = true ↔ a = b := by
  simp only [rustEqPurl, Bool.and_eq_true, heq, rustEqParts_iff U a.parts b.parts hb.2]
  exact ⟨fun h => GPurl.ext h.1 h.2, fun h => h ▸ ⟨rfl, rfl⟩⟩

theorem isOrd_lex {α β γ : Type} {c1 : α → α → Ordering} {c2 : β → β → Ordering} (h1 : IsOrd c1) (h2 : IsOrd c2)
    (f : γ → α) (g : γ → β) (inj : ∀ x y, f x = f y → g x = g y → x = y) :
    IsOrd fun x y => (c1 (f x) (f y)).andThen (c2 (g x) (g y)) where
  eq_iff x y := by
    rw [andThen_eq_iff, h1.eq_iff, h2.eq_iff]
    constructor
    · rintro ⟨a, b⟩; exact inj x y a b
    · rintro rfl; exact ⟨rfl, rfl⟩
  swap x y := by
    show (c1 (f y) (f x)).andThen (c2 (g y) (g x)) = _
    rw [andThen_swap, h1.swap (f x) (f y), h2.swap (g x) (g y)]
  lt_trans x y z := andThen_lt_trans h1 (h2.lt_trans _ _ _)

theorem isOrd_cmpPair : IsOrd cmpPair :=
  isOrd_lex isOrd_cmpStr isOrd_cmpStr Prod.fst Prod.snd fun _ _ => Prod.ext

theorem cmpQuals_eq (a b : Quals) : cmpQuals a b = cmpList cmpPair a b := by
  induction a generalizing b with
  | nil => cases b <;> rfl
  | cons x xs ih => cases b with
    | nil => rfl
    | cons y ys => simp only [cmpQuals, cmpList, ih]

theorem isOrd_cmpQuals : IsOrd cmpQuals := isOrd_of_eq cmpQuals_eq (isOrd_list isOrd_cmpPair)

theorem isOrd_cmpParts : IsOrd cmpParts := by
  have h5 := isOrd_cmpStr
  have h45 := isOrd_lex isOrd_cmpQuals h5 (fun p : Quals × Str => p.1) (fun p => p.2) (fun _ _ => Prod.ext)
  have h345 := isOrd_lex h5 h45 (fun p : Str × (Quals × Str) => p.1) (fun p => p.2) (fun _ _ => Prod.ext)
  have h2345 := isOrd_lex h5 h345 (fun p : Str × (Str × (Quals × Str)) => p.1) (fun p => p.2) (fun _ _ => Prod.ext)
  exact isOrd_lex h5 h2345 (fun p : Parts => p.ns) (fun p : Parts => (p.name, (p.version, (p.quals, p.subpath))))
    fun x y a b => by
      cases x; cases y; cases a; cases b
      rfl

theorem isOrd_cmpPurl {τ : Type} {cmpTy : τ → τ → Ordering} (h : IsOrd cmpTy) : IsOrd (cmpPurl cmpTy) :=
  isOrd_lex h isOrd_cmpParts (fun p : GPurl τ => p.ty) (fun p => p.parts) fun _ _ => GPurl.ext

theorem PkgType.all_index (t : PkgType) : PkgType.all[PkgType.index t]? = some t := by
  cases t <;> rfl

/-- the derived `Ord` of a field-less enum is the order of the variants' positions -/
theorem isOrd_cmpPkgType : IsOrd cmpPkgType :=
  isOrd_rank PkgType.index fun a b h => by
    have := PkgType.all_index a
    rw [h, PkgType.all_index b] at this
    exact (Option.some.inj this).symm

end Purl
