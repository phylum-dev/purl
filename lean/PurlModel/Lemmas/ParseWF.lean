/-
  What the parser guarantees about its result, that it never panics, and which error each of its
  stages can produce.
-/
import PurlModel.Lemmas.Parse
import PurlModel.Lemmas.Build
namespace Purl
open Generated

/-- a namespace as the parser produces it: non-empty '/'-free segments joined by '/' -/
def NsWF (ns : Str) : Prop := ∃ ds : List Str, ns = joinWith '/' ds ∧ ∀ d ∈ ds, d ≠ [] ∧ '/' ∉ d

/-- a subpath as the parser produces it: additionally no segment is "." or ".." -/
def SubWF (sub : Str) : Prop :=
  ∃ ds : List Str, sub = joinWith '/' ds ∧ ∀ d ∈ ds, d ≠ [] ∧ '/' ∉ d ∧ d ≠ ['.'] ∧ d ≠ ['.', '.']

theorem NsWF_nil : NsWF [] := ⟨[], rfl, by simp⟩
theorem SubWF_nil : SubWF [] := ⟨[], rfl, by simp⟩

theorem parsePre_ok_iff (U : UnicodeOps) {s ty rest : Str} {parts : Parts} :
    parsePre U s = .ok (ty, rest, parts) ↔
      ∃ s1 s2 s3 sub q, stripPrefix schemePrefix s = some s1 ∧
        splitSubpath (trimStart '/' s1) = .ok (s2, sub) ∧ splitQuals U s2 = .ok (s3, q) ∧
        splitOnce '/' s3 = some (ty, rest) ∧ isValidType ty = true ∧ parts = { quals := q, subpath := sub } := by
  constructor
  · intro h
    unfold parsePre at h
    split at h
    · cases h
    rename_i s1 h1
    split at h
    · cases h
    rename_i s2 sub h2
    split at h
    · cases h
    rename_i s3 q h3
    have he : s3.isEmpty = false := by
      cases he : s3.isEmpty
      · rfl
      · rw [he] at h; cases h
    rw [he, if_neg Bool.false_ne_true] at h
    split at h
    · cases h
    rename_i ty' rest' h4
    split at h
    · cases h
    rename_i hv
    cases h
    exact ⟨s1, s2, s3, sub, q, h1, h2, h3, h4, by simpa using hv, rfl⟩
  · rintro ⟨s1, s2, s3, sub, q, h1, h2, h3, h4, hv, rfl⟩
    have hne : s3.isEmpty = false := by
      cases s3 with
      | nil => cases h4
      | cons _ _ => rfl
    unfold parsePre
    simp only [h1, h2, h3, h4, hne, hv, Bool.not_true, Bool.false_eq_true, if_false]

theorem parsePost_ok_iff {rest : Str} {p0 p : Parts} :
    parsePost rest p0 = .ok p ↔
      ∃ s1 ver name ns n, splitVersion rest = .ok (s1, ver) ∧ splitNamespace s1 = .ok (name, ns) ∧
        decode name = .ok n ∧ p = { p0 with ns := ns, name := n, version := ver } := by
  constructor
  · intro h
    unfold parsePost at h
    split at h
    · cases h
    rename_i s1 ver h1
    split at h
    · cases h
    rename_i name ns h2
    split at h
    · cases h
    rename_i n h3
    cases h
    exact ⟨s1, ver, name, ns, n, h1, h2, h3, rfl⟩
  · rintro ⟨s1, ver, name, ns, n, h1, h2, h3, rfl⟩
    unfold parsePost
    simp only [h1, h2, h3]

theorem parseWith_fst {τ ε σ : Type} (U : UnicodeOps) (S : Shape τ ε σ) (s : Str) (st : σ) :
    (parseWith U S s st).1 =
      (match parsePre U s with
       | .error f => .error (f.map S.lift)
       | .ok (a, rest, p0) =>
         match (S.fromStr a st).1 with
         | .error e => fail e
         | .ok t =>
           match parsePost rest p0 with
           | .error e => fail (S.lift e)
           | .ok p1 => (buildWith U S ⟨t, p1⟩ (S.fromStr a st).2).1) := by
  unfold parseWith
  cases parsePre U s with
  | error f => rfl
  | ok x =>
    obtain ⟨a, rest, p0⟩ := x
    dsimp only
    cases S.fromStr a st with
    | mk r st1 =>
      cases r with
      | error e => rfl
      | ok t =>
        dsimp only
        cases parsePost rest p0 <;> rfl

variable (U : UnicodeOps) [LawfulUnicode U]

theorem splitSubpath_ok {s s' sub : Str} (h : splitSubpath s = .ok (s', sub)) : SubWF sub := by
  unfold splitSubpath at h
  split at h
  · split at h <;> cases h
    obtain ⟨ds, _, e, hp⟩ := decodeSubpath_spec ‹_›
    exact ⟨ds, e, hp⟩
  · cases h
    exact SubWF_nil

theorem splitQuals_ok {s s' : Str} {q : Quals} (h : splitQuals U s = .ok (s', q)) : QInv q ∧ ∀ kv ∈ q, kv.2 ≠ [] := by
  unfold splitQuals at h
  split at h
  · split at h <;> cases h
    rename_i hd
    exact qualItems_ok U hd QInv_nil (by simp)
  · cases h
    exact ⟨QInv_nil, by simp⟩

theorem splitQuals_no_panic (s : Str) : (splitQuals U s).isPanic = false := by
  unfold splitQuals
  split
  · rename_i qs _
    have hp : (decodeQualifiers U qs []).isPanic = false := qualItems_no_panic U _ []
    split
    · rename_i f hd
      obtain ⟨e, rfl⟩ := isPanic_error_eq_false.1 (hd ▸ hp)
      rfl
    · rfl
  · rfl

theorem parsePre_ok {s ty rest : Str} {parts : Parts} (h : parsePre U s = .ok (ty, rest, parts)) :
    isValidType ty = true ∧ QInv parts.quals ∧ (∀ kv ∈ parts.quals, kv.2 ≠ []) ∧ SubWF parts.subpath := by
  obtain ⟨_, _, _, _, _, _, h2, h3, _, hv, rfl⟩ := (parsePre_ok_iff U).1 h
  have hq := splitQuals_ok U h3
  exact ⟨hv, hq.1, hq.2, splitSubpath_ok h2⟩

theorem parsePre_no_panic (s : Str) : (parsePre U s).isPanic = false := by
  unfold parsePre
  split
  · rfl
  split
  · rfl
  rename_i s2 _ _
  split
  · rename_i f hq
    obtain ⟨e, rfl⟩ := isPanic_error_eq_false.1 (hq ▸ splitQuals_no_panic U s2)
    rfl
  · split
    · rfl
    · split
      · rfl
      · split <;> rfl

theorem splitNamespace_ok {s name ns : Str} (h : splitNamespace s = .ok (name, ns)) : NsWF ns := by
  unfold splitNamespace at h
  split at h
  · split at h <;> cases h
    obtain ⟨ds, _, e, hp⟩ := decodeNamespace_spec ‹_›
    exact ⟨ds, e, hp⟩
  · cases h
    exact NsWF_nil

theorem parsePost_ok {rest : Str} {parts parts' : Parts} (h : parsePost rest parts = .ok parts') :
    parts'.quals = parts.quals ∧ parts'.subpath = parts.subpath ∧ NsWF parts'.ns := by
  obtain ⟨_, _, _, _, _, _, h2, _, rfl⟩ := parsePost_ok_iff.1 h
  exact ⟨rfl, rfl, splitNamespace_ok h2⟩

theorem strPreviewMut_ok {s t : Str} (h : strPreviewMut s = .ok t) : isValidType s = true ∧ t = asciiLower s := by
  unfold strPreviewMut at h
  split at h
  · cases h
  · rename_i hv
    cases h
    exact ⟨by simpa using hv, rfl⟩

theorem isValidType_asciiLower {t : Str} (h : isValidType t = true) : isValidType (asciiLower t) = true :=
  validChars_asciiLower h

theorem no_sep_of_chars {specials seps : List Char} {s : Str}
    (ha : ∀ c ∈ seps, isAsciiAlnum c = false) (hs : ∀ c ∈ seps, c ∉ specials)
    (h : ∀ c ∈ s, (isAsciiAlnum c || specials.contains c) = true) {c : Char} (hc : c ∈ seps) : c ∉ s := by
  intro hm
  rcases Bool.or_eq_true_iff.1 (h c hm) with h1 | h2
  · rw [ha c hc] at h1; cases h1
  · exact hs c hc (by simpa using h2)

theorem validType_no_sep {t : Str} (h : isValidType t = true) {c : Char} (hc : c ∈ ['?', '#', '@', '/']) : c ∉ t :=
  no_sep_of_chars (by decide +kernel) (by decide +kernel) (List.all_eq_true.1 (Bool.and_eq_true_iff.1 h).2) hc

theorem validKey_no_sep {k : Str} (h : isValidKey k = true) {c : Char}
    (hc : c ∈ ['&', '=', '?', '#', '@', '/']) : c ∉ k :=
  no_sep_of_chars (by decide +kernel) (by decide +kernel) (isValidKey_chars h) hc

theorem isValidType_ne_nil {t : Str} (h : isValidType t = true) : t ≠ [] := by
  unfold isValidType at h
  intro e; subst e; simp at h

/-- a well-formed value of the type-agnostic PURL -/
structure WF (p : GPurl Str) : Prop where
  type_valid : isValidType p.ty = true
  type_lower : asciiLower p.ty = p.ty
  name_ne : p.parts.name ≠ []
  quals_inv : QInv p.parts.quals
  vals_ne : ∀ kv ∈ p.parts.quals, kv.2 ≠ []
  ns_wf : NsWF p.parts.ns
  sub_wf : SubWF p.parts.subpath

omit [LawfulUnicode U] in
theorem parseWith_ok_decompose {τ ε σ : Type} (S : Shape τ ε σ) {s : Str} {st : σ} {p : GPurl τ}
    (h : (parseWith U S s st).1 = .ok p) :
    ∃ a rest parts0 t parts1 t' parts2,
      parsePre U s = .ok (a, rest, parts0) ∧ (S.fromStr a st).1 = .ok t ∧ parsePost rest parts0 = .ok parts1 ∧
      (S.finish t parts1 (S.fromStr a st).2).1 = .ok (t', parts2) ∧ postFinish U S.lift t' parts2 = .ok p := by
  rw [parseWith_fst] at h
  split at h
  · cases h
  rename_i a rest parts0 hp
  split at h
  · cases h
  rename_i t hf
  split at h
  · cases h
  rename_i parts1 hq
  rw [buildWith_fst] at h
  split at h
  · cases h
  rename_i t' parts2 hfin
  exact ⟨a, rest, parts0, t, parts1, t', parts2, hp, hf, hq, hfin, h⟩

theorem parseWith_no_panic {τ ε σ : Type} (S : Shape τ ε σ) (s : Str) (st : σ) :
    (parseWith U S s st).1.isPanic = false := by
  rw [parseWith_fst]
  split
  · rename_i f hp
    obtain ⟨e, rfl⟩ := isPanic_error_eq_false.1 (hp ▸ parsePre_no_panic U s)
    rfl
  · split
    · rfl
    · split
      · rfl
      · exact buildWith_no_panic U S _ _

theorem nsDecoded_error_kind {l : List Str} {e : PErr} (h : nsDecoded l = .error e) : e = .invalidEscape := by
  fun_induction nsDecoded l with
  | case2 seg rest hskip ih => exact ih h
  | case3 seg rest _ e' hdec => cases h; exact decode_error_kind hdec
  | case4 seg rest _ d _ hslash => cases h; rfl
  | case5 seg rest _ d _ _ e' hrest ih => cases h; exact ih hrest
  | _ => cases h

theorem subDecoded_error_kind {l : List Str} {e : PErr} (h : subDecoded l = .error e) : e = .invalidEscape := by
  fun_induction subDecoded l with
  | case2 seg rest hskip ih => exact ih h
  | case3 seg rest _ e' hdec => cases h; exact decode_error_kind hdec
  | case4 seg rest _ d _ hbad => cases h; rfl
  | case5 seg rest _ d _ _ e' hrest ih => cases h; exact ih hrest
  | _ => cases h

theorem decodeNamespace_error_kind {s : Str} {e : PErr} (h : decodeNamespace s = .error e) : e = .invalidEscape := by
  rw [decodeNamespace_eq] at h
  cases hd : nsDecoded (splitOn '/' (trimMatches '/' s)) <;> rw [hd] at h <;> cases h
  exact nsDecoded_error_kind hd

theorem decodeSubpath_error_kind {s : Str} {e : PErr} (h : decodeSubpath s = .error e) : e = .invalidEscape := by
  rw [decodeSubpath_eq] at h
  cases hd : subDecoded (splitOn '/' (trimMatches '/' s)) <;> rw [hd] at h <;> cases h
  exact subDecoded_error_kind hd

theorem splitSubpath_error_kind {s : Str} {e : PErr} (h : splitSubpath s = .error e) : e = .invalidEscape := by
  unfold splitSubpath at h
  split at h
  · split at h <;> cases h
    exact decodeSubpath_error_kind ‹_›
  · cases h

theorem splitVersion_error_kind {s : Str} {e : PErr} (h : splitVersion s = .error e) : e = .invalidEscape := by
  unfold splitVersion at h
  split at h
  · split at h <;> cases h
    exact decode_error_kind ‹_›
  · cases h

theorem splitNamespace_error_kind {s : Str} {e : PErr} (h : splitNamespace s = .error e) : e = .invalidEscape := by
  unfold splitNamespace at h
  split at h
  · split at h <;> cases h
    exact decodeNamespace_error_kind ‹_›
  · cases h

/-- every error of the second half of the parser (version, namespace, name) is InvalidEscape -/
theorem parsePost_error_kind {rest : Str} {parts : Parts} {e : PErr} (h : parsePost rest parts = .error e) :
    e = .invalidEscape := by
  unfold parsePost at h
  split at h
  · rename_i hv; cases h; exact splitVersion_error_kind hv
  split at h
  · rename_i hn; cases h; exact splitNamespace_error_kind hn
  split at h
  · rename_i hd; cases h; exact decode_error_kind hd
  · cases h

end Purl
