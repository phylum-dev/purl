/-
  The qualifier part of a PURL string: its items may come in any order, with empty-valued items
  interleaved, in any letter case of the keys — the decoded collection is the same.
-/
import PurlModel.Lemmas.Parse
import PurlModel.Lemmas.Pieces
namespace Purl
open Generated

/-- a well-formed item `key=value`, with its lower-cased key and decoded value -/
structure ItemOk (item k d : Str) : Prop where
  ex : ∃ k0 v, splitOnce '=' item = some (k0, v) ∧ isValidKey k0 = true ∧ decode v = .ok d ∧ k = asciiLower k0

/-- what the items contribute under key `p`: the (unique) non-empty value written for it -/
def contentLookup (its : List (Str × Str × Str)) (p : Str) : Option Str :=
  (its.find? fun x => x.2.1 == p && !x.2.2.isEmpty).map (·.2.2)

theorem contentLookup_cons (x : Str × Str × Str) (rest : List (Str × Str × Str)) (p : Str) :
    contentLookup (x :: rest) p = if x.2.1 = p ∧ x.2.2 ≠ [] then some x.2.2 else contentLookup rest p := by
  have hc : (x.2.1 == p && !x.2.2.isEmpty) = true ↔ x.2.1 = p ∧ x.2.2 ≠ [] := by
    rw [Bool.and_eq_true, beq_iff_eq, Bool.not_eq_true', List.isEmpty_eq_false_iff]
  unfold contentLookup
  rw [List.find?_cons]
  by_cases h : x.2.1 = p ∧ x.2.2 ≠ []
  · rw [if_pos h, hc.2 h]; rfl
  · rw [if_neg h, Bool.eq_false_iff.2 (mt hc.1 h)]

theorem lookup_round (k d : Str) (acc : Quals) (p : Str) :
    lookup (if d.isEmpty then acc else upsert k d acc) p = if k = p ∧ d ≠ [] then some d else lookup acc p := by
  cases d with
  | nil => simp
  | cons c cs => simp [lookup_upsert, eq_comm]

variable (U : UnicodeOps) [LawfulUnicode U]

/-- items with pairwise distinct keys (ignoring case) are all accepted; the result holds their
non-empty values on top of what was there -/
theorem qualItems_of_distinct (its : List (Str × Str × Str)) (acc : Quals) (hacc : QInv acc)
    (hok : ∀ x ∈ its, ItemOk x.1 x.2.1 x.2.2) (hnd : (its.map (·.2.1)).Nodup)
    (hdis : ∀ x ∈ its, lookup acc x.2.1 = none) :
    ∃ q, qualItems U (its.map (·.1)) acc = .ok q ∧ QInv q ∧
      ∀ p, lookup q p = (contentLookup its p).or (lookup acc p) := by
  induction its generalizing acc with
  | nil => exact ⟨acc, rfl, hacc, fun p => rfl⟩
  | cons x rest ih =>
    obtain ⟨item, k, d⟩ := x
    obtain ⟨k0, v, hsp, hk0, hdec, rfl⟩ := (hok (item, k, d) (by simp)).ex
    obtain ⟨hnew, hnd⟩ := List.nodup_cons.1 hnd
    have hf : foundAt (asciiLower k0) acc = false := by
      rw [foundAt_eq_lookup hacc.1, hdis (item, _, d) (by simp)]
      rfl
    rw [List.map_cons, qualItems_cons, hsp]
    simp only [hk0, hf, hdec, Bool.not_false, Bool.and_self, if_true]
    -- the remaining keys differ from this one: they contribute nothing under it and stay absent
    have hne : ∀ y ∈ rest, asciiLower k0 ≠ y.2.1 := fun y hy e => hnew (List.mem_map.2 ⟨y, hy, e.symm⟩)
    have hrest : contentLookup rest (asciiLower k0) = none := by
      unfold contentLookup
      rw [List.find?_eq_none.2 fun y hy => by simp [(hne y hy).symm]]
      rfl
    have hacc' : QInv (if d.isEmpty then acc else upsert (asciiLower k0) d acc) := by
      split
      · exact hacc
      · exact QInv_upsert d hacc (keyOk_asciiLower hk0)
    obtain ⟨q, h1, h2, h3⟩ := ih _ hacc' (fun y hy => hok y (by simp [hy])) hnd
      (fun y hy => by rw [lookup_round, if_neg (fun h => hne y hy h.1), hdis y (by simp [hy])])
    refine ⟨q, h1, h2, fun p => ?_⟩
    rw [h3 p, lookup_round, contentLookup_cons]
    split
    · rename_i e
      rw [← e.1, hrest]
      rfl
    · rfl
theorem contentLookup_perm {a b : List (Str × Str × Str)} (h : a.Perm b) (hnd : (a.map (·.2.1)).Nodup) (p : Str) :
    contentLookup a p = contentLookup b p := by
  unfold contentLookup
  rw [find?_perm_of_nodup_key (f := (·.2.1)) (k := p) (fun x _ hx => by simpa using (Bool.and_eq_true_iff.1 hx).1) h hnd]

theorem qualItems_order_irrelevant (a b : List (Str × Str × Str)) (hperm : a.Perm b)
    (hok : ∀ x ∈ a, ItemOk x.1 x.2.1 x.2.2) (hnd : (a.map (·.2.1)).Nodup) :
    ∃ q, qualItems U (a.map (·.1)) [] = .ok q ∧ qualItems U (b.map (·.1)) [] = .ok q := by
  have hokb : ∀ x ∈ b, ItemOk x.1 x.2.1 x.2.2 := fun x hx => hok x (hperm.symm.subset hx)
  have hndb : (b.map (·.2.1)).Nodup := (hperm.map _).nodup_iff.1 hnd
  obtain ⟨qa, ha1, ha2, ha3⟩ := qualItems_of_distinct U a [] QInv_nil hok hnd (fun _ _ => rfl)
  obtain ⟨qb, hb1, hb2, hb3⟩ := qualItems_of_distinct U b [] QInv_nil hokb hndb (fun _ _ => rfl)
  have : qa = qb := by
    apply QInv.ext ha2.1 hb2.1
    intro p
    rw [ha3 p, hb3 p, contentLookup_perm hperm hnd p]
  subst this
  exact ⟨qa, ha1, hb1⟩

theorem Pieces.Ok.reorder {w : Pieces} {l₁ l₂ : List Str} (h : l₁.Perm l₂)
    (ok : ({ w with quals := some (joinWith '&' l₁) } : Pieces).Ok) :
    ({ w with quals := some (joinWith '&' l₂) } : Pieces).Ok := by
  refine ⟨ok.ty_valid, ?_, ?_, ok.at_, ok.slash⟩
  · have hh := ok.hash
    cases hs : w.sub with
    | some x => simp only [hs] at hh ⊢; exact hh
    | none =>
      simp only [hs, Pieces.path, Pieces.qPart, Pieces.nsPart, Pieces.verPart, List.mem_append, List.mem_cons, not_or] at hh ⊢
      refine ⟨hh.1, hh.2.1, ?_⟩
      rw [← mem_joinWith_perm (by decide) h]
      exact hh.2.2
  · have hh := ok.qmark
    simp only at hh ⊢
    rw [← mem_joinWith_perm (by decide) h]
    exact hh

end Purl
