/-
  Decoding what `Display` printed for an arbitrary namespace / subpath (as the builder accepts
  them) gives the namespace / subpath with its insignificant segments dropped (`normNs`, `normSub`);
  on parser-normalised values nothing is dropped.
-/
import PurlModel.Lemmas.Encode
import PurlModel.Lemmas.ParseWF
namespace Purl
open Generated

/-- the namespace without empty segments -/
def normNs (ns : Str) : Str := joinWith '/' ((splitOn '/' ns).filter fun p => !p.isEmpty)

/-- the subpath without empty, "." and ".." segments -/
def normSub (sub : Str) : Str := joinWith '/' ((splitOn '/' sub).filter fun p => !isDotSeg p)

/-- both decoders skip empty pieces, so they do not see the trimming -/
theorem nsDecoded_filter (l : List Str) : nsDecoded (l.filter fun p => !p.isEmpty) = nsDecoded l := by
  induction l with
  | nil => rfl
  | cons p rest ih =>
    cases p with
    | nil => exact ih
    | cons c cs => simp only [List.isEmpty_cons, Bool.not_false, List.filter_cons_of_pos, nsDecoded, ih]

theorem nsDecoded_trim (s : Str) : nsDecoded (splitOn '/' (trimMatches '/' s)) = nsDecoded (splitOn '/' s) := by
  rw [← nsDecoded_filter, splitOn_trimMatches, nsDecoded_filter]

theorem subDecoded_filter (l : List Str) : subDecoded (l.filter fun p => !p.isEmpty) = subDecoded l := by
  induction l with
  | nil => rfl
  | cons p rest ih =>
    cases p with
    | nil => exact ih
    | cons c cs => simp only [List.isEmpty_cons, Bool.not_false, List.filter_cons_of_pos, subDecoded, ih]

theorem subDecoded_trim (s : Str) : subDecoded (splitOn '/' (trimMatches '/' s)) = subDecoded (splitOn '/' s) := by
  rw [← subDecoded_filter, splitOn_trimMatches, subDecoded_filter]

theorem nsDecoded_encoded_any (pieces : List Str) (h : ∀ p ∈ pieces, '/' ∉ p) :
    nsDecoded (pieces.map (pctEncode namespaceEsc)) = .ok (pieces.filter fun p => !p.isEmpty) := by
  induction pieces with
  | nil => rfl
  | cons d rest ih =>
    have hd : d.contains '/' = false := by simpa using h d (by simp)
    have he : (pctEncode namespaceEsc d).isEmpty = d.isEmpty := by
      rw [Bool.eq_iff_iff]
      simpa using pctEncode_eq_nil_iff
    simp only [List.map_cons, nsDecoded, he, List.filter_cons, namespaceEsc_reserved.decode,
      hd, ih (fun x hx => h x (by simp [hx]))]
    cases d.isEmpty <;> rfl

theorem splitOn_pctEncode {set : UInt8 → Bool} (hs : set ('/' : Char).toNat.toUInt8 = false) (s : Str) :
    splitOn '/' (pctEncode set s) = (splitOn '/' s).map (pctEncode set) := by
  conv => lhs; rw [← joinWith_splitOn '/' s, pctEncode_joinWith set (by decide) hs]
  apply splitOn_joinWith
  · simpa using splitOn_ne_nil '/' s
  · intro p hp
    obtain ⟨d, hd, rfl⟩ := List.mem_map.1 hp
    exact fun hm => not_mem_of_mem_splitOn hd (mem_of_mem_pctEncode hm (by decide) (by decide))

theorem decodeNamespace_encoded_any (ns : Str) :
    decodeNamespace (pctEncode namespaceEsc ns) = .ok (normNs ns) := by
  rw [decodeNamespace_eq, nsDecoded_trim, splitOn_pctEncode namespaceEsc_slash,
    nsDecoded_encoded_any _ (fun p hp => not_mem_of_mem_splitOn hp)]
  rfl

theorem isDotSeg_pctEncode {set : UInt8 → Bool} (hp : set 0x25 = true) (hdot : set ('.' : Char).toNat.toUInt8 = false)
    (d : Str) : isDotSeg (pctEncode set d) = isDotSeg d := by
  have h := @pctEncode_eq_dot set hp d
  have hraw1 : pctEncode set ['.'] = ['.'] := pctEncode_singleton_raw set (by decide) hdot
  have hraw2 : pctEncode set ['.', '.'] = ['.', '.'] := by
    rw [show (['.', '.'] : Str) = ['.'] ++ ['.'] from rfl, pctEncode_append, hraw1]
  rw [Bool.eq_iff_iff]
  simp only [isDotSeg, Bool.or_eq_true, decide_eq_true_eq]
  exact or_congr (or_congr pctEncode_eq_nil_iff ⟨h.1, fun e => by rw [e, hraw1]⟩) ⟨h.2, fun e => by rw [e, hraw2]⟩

theorem subDecoded_encoded_any (pieces : List Str) (h : ∀ p ∈ pieces, '/' ∉ p) :
    subDecoded (pieces.map (pctEncode subpathEsc)) = .ok (pieces.filter fun p => !isDotSeg p) := by
  induction pieces with
  | nil => rfl
  | cons d rest ih =>
    have hd : d.contains '/' = false := by simpa using h d (by simp)
    have hb : isDotSeg d = false → badSubSeg d = false := by
      simp only [isDotSeg, badSubSeg, hd, Bool.false_or, Bool.or_eq_false_iff]
      exact fun hde => ⟨hde.1.2, hde.2⟩
    simp only [List.map_cons, subDecoded, isDotSeg_pctEncode subpathEsc_reserved.pct (by decide +kernel), List.filter_cons,
      subpathEsc_reserved.decode, ih (fun x hx => h x (by simp [hx]))]
    cases hde : isDotSeg d
    · simp [hb hde]
    · rfl

theorem decodeSubpath_encoded_any (sub : Str) :
    decodeSubpath (pctEncode subpathEsc sub) = .ok (normSub sub) := by
  rw [decodeSubpath_eq, subDecoded_trim, splitOn_pctEncode subpathEsc_slash,
    subDecoded_encoded_any _ (fun p hp => not_mem_of_mem_splitOn hp)]
  rfl

theorem normNs_of_NsWF {ns : Str} (h : NsWF ns) : normNs ns = ns := by
  obtain ⟨ds, rfl, hp⟩ := h
  cases ds with
  | nil => rfl
  | cons d rest =>
    unfold normNs
    rw [splitOn_joinWith (by simp) (fun p hp' => (hp p hp').2), List.filter_eq_self.2]
    intro p hp'
    simpa using (hp p hp').1

theorem normSub_of_SubWF {sub : Str} (h : SubWF sub) : normSub sub = sub := by
  obtain ⟨ds, rfl, hp⟩ := h
  cases ds with
  | nil => rfl
  | cons d rest =>
    unfold normSub
    rw [splitOn_joinWith (by simp) (fun p hp' => (hp p hp').2.1), List.filter_eq_self.2]
    intro p hp'
    obtain ⟨hne, _, hdot, hdots⟩ := hp p hp'
    simp [isDotSeg, hne, hdot, hdots]

theorem NsWF_normNs (ns : Str) : NsWF (normNs ns) := by
  refine ⟨_, rfl, ?_⟩
  intro d hd
  simp only [List.mem_filter, Bool.not_eq_true', List.isEmpty_eq_false_iff] at hd
  exact ⟨hd.2, not_mem_of_mem_splitOn hd.1⟩

theorem SubWF_normSub (sub : Str) : SubWF (normSub sub) := by
  refine ⟨_, rfl, ?_⟩
  intro d hd
  simp only [List.mem_filter, Bool.not_eq_true'] at hd
  have hdot := hd.2
  unfold isDotSeg at hdot
  simp only [Bool.or_eq_false_iff, decide_eq_false_iff_not] at hdot
  exact ⟨hdot.1.1, not_mem_of_mem_splitOn hd.1, hdot.1.2, hdot.2⟩

end Purl
