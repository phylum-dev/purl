/-
  `Qualifiers` (PurlModel.Quals): the search is a lower-bound scan (`lb`, `foundAt`), and every call of
  the API has a closed form at the index the search answers: a read is `lookupS`, a write `upsert`, a
  removal `eraseS` — scans of the list in key order.  No invariant is needed here; what the scans mean
  on a sorted list is Lemmas/QualsInv.lean.
-/
import PurlModel.Quals
import PurlModel.Lemmas.Unicode
import PurlModel.Lemmas.Order
namespace Purl
open Generated

theorem keySpecials_ascii : ∀ c ∈ keySpecials, isAscii c = true := by decide

theorem keySpecials_not_upper : ∀ c ∈ keySpecials, isAsciiUpper c = false := by decide

theorem validKeyChar_ascii {c : Char} (h : (isAsciiAlnum c || keySpecials.contains c) = true) : isAscii c = true := by
  simp only [Bool.or_eq_true] at h
  rcases h with h | h
  · exact isAscii_of_alnum h
  · exact keySpecials_ascii c (by simpa using h)

theorem isValidKey_chars {k : Str} (h : isValidKey k = true) :
    ∀ c ∈ k, (isAsciiAlnum c || keySpecials.contains c) = true := by
  unfold isValidKey at h
  simp only [Bool.and_eq_true, List.all_eq_true] at h
  exact h.2

theorem lowerFull_validKey (U : UnicodeOps) [LawfulUnicode U] {k : Str} (h : isValidKey k = true) :
    U.lowerFull k = asciiLower k :=
  flatMap_eq_asciiLower LawfulUnicode.ascii_lower fun c hc => validKeyChar_ascii (isValidKey_chars h c hc)

theorem checkKey_valid {k : Str} (h : isValidKey k = true) :
    ∃ mk, checkKey k = .ok mk ∧ mk.asRef = k ∧ mk.intoKey = asciiLower k := by
  unfold checkKey
  simp only [h, Bool.not_true, Bool.false_eq_true, if_false]
  split
  · rename_i hl
    exact ⟨.lower k, rfl, rfl, (asciiLower_of_all_lower hl).symm⟩
  · exact ⟨.mixed k, rfl, rfl, rfl⟩

theorem checkKey_invalid {k : Str} (h : isValidKey k = false) : checkKey k = .error .invalidQualifier := by
  unfold checkKey
  simp [h]

/-- number of leading entries whose key is below `p` -/
def lb (p : Str) : Quals → Nat
  | [] => 0
  | (k, _) :: rest => if cmpStr k p = .lt then lb p rest + 1 else 0

/-- whether the scan stops at an entry with key `p` -/
def foundAt (p : Str) : Quals → Bool
  | [] => false
  | (k, _) :: rest =>
    match cmpStr k p with
    | .lt => foundAt p rest
    | .eq => true
    | .gt => false

theorem searchFrom_eq (U : UnicodeOps) (probe p : Str) (hp : U.lowerFull probe = p) (q : Quals) (i : Nat) :
    searchFrom U probe q i = .ok (foundAt p q, i + lb p q) := by
  induction q generalizing i with
  | nil => rfl
  | cons kv rest ih =>
    obtain ⟨k, v⟩ := kv
    rw [searchFrom, keyPartialCmp, hp, foundAt, lb]
    cases h : cmpStr k p with
    | lt =>
      show searchFrom U probe rest (i + 1) = .ok (foundAt p rest, i + (lb p rest + 1))
      rw [ih, Nat.add_assoc, Nat.add_comm 1]
    | eq => rfl
    | gt => rfl

theorem lb_le_length (p : Str) (q : Quals) : lb p q ≤ q.length := by
  induction q with
  | nil => exact Nat.le_refl 0
  | cons kv rest ih =>
    obtain ⟨k, v⟩ := kv
    rw [lb]
    split
    · exact Nat.succ_le_succ ih
    · exact Nat.zero_le _

def upsert (p v : Str) : Quals → Quals
  | [] => [(p, v)]
  | (k, w) :: rest =>
    match cmpStr k p with
    | .lt => (k, w) :: upsert p v rest
    | .eq => (k, v) :: rest
    | .gt => (p, v) :: (k, w) :: rest

def lookupS (p : Str) : Quals → Option Str
  | [] => none
  | (k, w) :: rest =>
    match cmpStr k p with
    | .lt => lookupS p rest
    | .eq => some w
    | .gt => none

def eraseS (p : Str) : Quals → Quals
  | [] => []
  | (k, w) :: rest =>
    match cmpStr k p with
    | .lt => (k, w) :: eraseS p rest
    | .eq => rest
    | .gt => (k, w) :: rest

theorem scan_found {p : Str} {q : Quals} (h : foundAt p q = true) :
    ∃ pre w rest, q = pre ++ (p, w) :: rest ∧ lb p q = pre.length ∧ lookupS p q = some w ∧
      (∀ v, upsert p v q = pre ++ (p, v) :: rest) ∧ eraseS p q = pre ++ rest := by
  induction q with
  | nil => cases h
  | cons kv q ih =>
    obtain ⟨k, w⟩ := kv
    simp only [foundAt, lb, lookupS, upsert, eraseS] at h ⊢
    cases hc : cmpStr k p <;> rw [hc] at h
    · obtain ⟨pre, w', rest, rfl, hl, hs, hu, he⟩ := ih h
      exact ⟨(k, w) :: pre, w', rest, rfl, by simp [hl], hs, fun v => by simp [hu v], by simp [he]⟩
    · cases cmpStr_eq_iff.1 hc
      exact ⟨[], w, q, rfl, rfl, rfl, fun _ => rfl, rfl⟩
    · cases h

theorem scan_not_found {p : Str} {q : Quals} (h : foundAt p q = false) :
    lookupS p q = none ∧ eraseS p q = q ∧ ∀ v, upsert p v q = q.insertIdx (lb p q) (p, v) := by
  induction q with
  | nil => exact ⟨rfl, rfl, fun _ => rfl⟩
  | cons kv q ih =>
    obtain ⟨k, w⟩ := kv
    simp only [foundAt, lb, lookupS, upsert, eraseS] at h ⊢
    cases hc : cmpStr k p <;> rw [hc] at h
    · obtain ⟨hs, he, hu⟩ := ih h
      exact ⟨hs, by simp [he], fun v => by simp [hu v]⟩
    · cases h
    · exact ⟨rfl, rfl, fun _ => rfl⟩

theorem lookupS_not_found {p : Str} {q : Quals} (h : foundAt p q = false) : lookupS p q = none :=
  (scan_not_found h).1

theorem eraseS_not_found {p : Str} {q : Quals} (h : foundAt p q = false) : eraseS p q = q :=
  (scan_not_found h).2.1

theorem upsert_not_found {p : Str} {q : Quals} (h : foundAt p q = false) (v : Str) :
    upsert p v q = q.insertIdx (lb p q) (p, v) :=
  (scan_not_found h).2.2 v

theorem foundAt_eq_lookupS (p : Str) (q : Quals) : foundAt p q = (lookupS p q).isSome := by
  cases h : foundAt p q
  · rw [lookupS_not_found h]; rfl
  · obtain ⟨pre, w, rest, -, -, hs, -⟩ := scan_found h
    rw [hs]; rfl

theorem foundAt_getElem {p : Str} {q : Quals} (h : foundAt p q = true) :
    ∃ v, q[lb p q]? = some (p, v) := by
  obtain ⟨pre, w, rest, rfl, hl, -⟩ := scan_found h
  exact ⟨w, by simp [hl]⟩

theorem foundAt_of_all_lt {p : Str} {acc : Quals} (h : ∀ kv ∈ acc, cmpStr kv.1 p = .lt) : foundAt p acc = false := by
  induction acc with
  | nil => rfl
  | cons x rest ih =>
    obtain ⟨k, w⟩ := x
    simp only [foundAt]
    rw [h (k, w) (by simp)]
    exact ih (fun kv hkv => h kv (by simp [hkv]))

theorem upsert_of_all_lt {p : Str} (v : Str) {acc : Quals} (h : ∀ kv ∈ acc, cmpStr kv.1 p = .lt) :
    upsert p v acc = acc ++ [(p, v)] := by
  induction acc with
  | nil => rfl
  | cons x rest ih =>
    obtain ⟨k, w⟩ := x
    simp only [upsert]
    rw [h (k, w) (by simp)]
    simp [ih (fun kv hkv => h kv (by simp [hkv]))]

theorem vec_at_found {p : Str} {q : Quals} (hf : foundAt p q = true) :
    ∃ w, lookupS p q = some w ∧ vecGet (ε := PErr) q (lb p q) = .ok (p, w) ∧
      (∀ v, vecSet (ε := PErr) q (lb p q) (p, v) = .ok (upsert p v q)) ∧
      vecRemove (ε := PErr) q (lb p q) = .ok ((p, w), eraseS p q) := by
  obtain ⟨pre, w, rest, rfl, hl, hs, hu, he⟩ := scan_found hf
  refine ⟨w, hs, ?_, fun v => ?_, ?_⟩
  · simp [vecGet, hl]
  · simp [vecSet, hl, hu]
  · simp [vecRemove, hl, he, List.eraseIdx_append_of_length_le]

theorem vecInsert_lb {p : Str} {q : Quals} (hf : foundAt p q = false) (v : Str) :
    vecInsert (ε := PErr) q (lb p q) (p, v) = .ok (upsert p v q) := by
  simp only [vecInsert, lb_le_length, if_true, upsert_not_found hf]

theorem vecGet_upsert_lb (p v : Str) (q : Quals) : vecGet (ε := PErr) (upsert p v q) (lb p q) = .ok (p, v) := by
  cases hf : foundAt p q
  · simp [vecGet, upsert_not_found hf, List.getElem?_insertIdx_self, lb_le_length]
  · obtain ⟨pre, w, rest, rfl, hl, -, hu, -⟩ := scan_found hf
    simp [vecGet, hl, hu]

theorem setAt_lb_eq_upsert {p : Str} {q : Quals} (hf : foundAt p q = true) (v : Str) :
    q.setAt (lb p q) v = .ok (upsert p v q) := by
  obtain ⟨w, _, hg, hs, _⟩ := vec_at_found hf
  simp only [Quals.setAt, hg, hs]

variable (U : UnicodeOps) [LawfulUnicode U]

theorem search_valid {k : Str} {mk : MixedKey} (hk : isValidKey k = true) (hmk : mk.asRef = k) (q : Quals) :
    q.search U mk = .ok (foundAt (asciiLower k) q, lb (asciiLower k) q) := by
  unfold Quals.search
  rw [hmk, searchFrom_eq U k (asciiLower k) (lowerFull_validKey U hk) q 0]
  simp

theorem getIndex_valid {k : Str} (hk : isValidKey k = true) (q : Quals) :
    q.getIndex U k = .ok (if foundAt (asciiLower k) q then some (lb (asciiLower k) q) else none) := by
  obtain ⟨mk, h1, h2, _⟩ := checkKey_valid hk
  unfold Quals.getIndex
  rw [h1]
  simp only [search_valid U hk h2 q]
  cases foundAt (asciiLower k) q <;> rfl

omit [LawfulUnicode U] in
theorem getIndex_invalid {k : Str} (hk : isValidKey k = false) (q : Quals) : q.getIndex U k = .ok none := by
  unfold Quals.getIndex
  rw [checkKey_invalid hk]

theorem getIndex_eq (q : Quals) (k : Str) :
    q.getIndex U k =
      .ok (if isValidKey k && (lookupS (asciiLower k) q).isSome then some (lb (asciiLower k) q) else none) := by
  cases hk : isValidKey k with
  | false => rw [getIndex_invalid U hk]; rfl
  | true => rw [getIndex_valid U hk, foundAt_eq_lookupS]; rfl

theorem get_eq (q : Quals) (k : Str) :
    q.get U k = .ok (if isValidKey k then lookupS (asciiLower k) q else none) := by
  unfold Quals.get
  cases hk : isValidKey k with
  | false => rw [getIndex_invalid U hk]; rfl
  | true =>
    rw [getIndex_valid U hk]
    cases hf : foundAt (asciiLower k) q with
    | false => simp only [Bool.false_eq_true, if_false, if_true, lookupS_not_found hf]
    | true =>
      obtain ⟨w, hl, hg, _⟩ := vec_at_found hf
      simp only [if_true, hg, hl]

theorem containsKey_eq (q : Quals) (k : Str) :
    q.containsKey U k = .ok (isValidKey k && (lookupS (asciiLower k) q).isSome) := by
  unfold Quals.containsKey
  rw [getIndex_eq U]
  cases (isValidKey k && (lookupS (asciiLower k) q).isSome) <;> rfl

omit [LawfulUnicode U] in
theorem index_eq_get (q : Quals) (k : Str) :
    q.index U k = (match q.get U k with
                   | .ok (some v) => .ok v
                   | .ok none => panic .qualIndex
                   | .error f => .error f) := by
  unfold Quals.index Quals.get
  cases q.getIndex U k with
  | error f => rfl
  | ok o =>
    cases o with
    | none => rfl
    | some i => dsimp only; cases vecGet (ε := PErr) q i <;> rfl

theorem index_eq (q : Quals) (k : Str) :
    q.index U k = (match (if isValidKey k then lookupS (asciiLower k) q else none) with
                   | some v => .ok v
                   | none => panic .qualIndex) := by
  rw [index_eq_get, get_eq U]
  cases (if isValidKey k then lookupS (asciiLower k) q else none) <;> rfl

theorem insert_valid {k : Str} (hk : isValidKey k = true) (q : Quals) (v : Str) :
    q.insert U k v = .ok (v, upsert (asciiLower k) v q) := by
  obtain ⟨mk, h1, h2, h3⟩ := checkKey_valid hk
  unfold Quals.insert
  rw [h1]
  simp only [search_valid U hk h2 q]
  cases hf : foundAt (asciiLower k) q with
  | true => simp only [setAt_lb_eq_upsert hf, vecGet_upsert_lb]
  | false => simp only [h3, vecInsert_lb hf, vecGet_upsert_lb]

omit [LawfulUnicode U] in
theorem insert_invalid {k : Str} (hk : isValidKey k = false) (q : Quals) (v : Str) :
    q.insert U k v = fail .invalidQualifier := by
  unfold Quals.insert
  rw [checkKey_invalid hk]

theorem insertTyped_valid {k : Str} (hk : isValidKey k = true) (q : Quals) (v : Str) :
    q.insertTyped U k v = .ok (upsert (asciiLower k) v q) := by
  simp only [Quals.insertTyped, insert_valid U hk]

omit [LawfulUnicode U] in
theorem insertTyped_invalid {k : Str} (hk : isValidKey k = false) (q : Quals) (v : Str) :
    q.insertTyped U k v = panic .typedKey := by
  simp only [Quals.insertTyped, insert_invalid U hk]
  rfl

theorem remove_eq (q : Quals) (k : Str) :
    q.remove U k = .ok (if isValidKey k then (lookupS (asciiLower k) q, eraseS (asciiLower k) q) else (none, q)) := by
  unfold Quals.remove
  cases hk : isValidKey k with
  | false => rw [getIndex_invalid U hk]; rfl
  | true =>
    rw [getIndex_valid U hk]
    cases hf : foundAt (asciiLower k) q with
    | false => simp only [Bool.false_eq_true, if_false, if_true, lookupS_not_found hf, eraseS_not_found hf]
    | true =>
      obtain ⟨w, hl, _, _, hr⟩ := vec_at_found hf
      simp only [if_true, hr, hl]

theorem entry_valid {k : Str} (hk : isValidKey k = true) (q : Quals) :
    ∃ mk, mk.intoKey = asciiLower k ∧
      q.entry U k = .ok (if foundAt (asciiLower k) q then .occupied (lb (asciiLower k) q)
                         else .vacant (lb (asciiLower k) q) mk) := by
  obtain ⟨mk, h1, h2, h3⟩ := checkKey_valid hk
  refine ⟨mk, h3, ?_⟩
  unfold Quals.entry
  rw [h1]
  simp only [search_valid U hk h2 q]
  cases foundAt (asciiLower k) q <;> rfl

omit [LawfulUnicode U] in
theorem entry_invalid {k : Str} (hk : isValidKey k = false) (q : Quals) :
    q.entry U k = fail .invalidQualifier := by
  unfold Quals.entry
  rw [checkKey_invalid hk]

theorem vacantInsert_eq {p v : Str} {q : Quals} {mk : MixedKey} (hmk : mk.intoKey = p) (hf : foundAt p q = false) :
    q.vacantInsert (lb p q) mk v = .ok (v, upsert p v q) := by
  simp only [Quals.vacantInsert, hmk, vecInsert_lb hf, vecGet_upsert_lb]

theorem getMutIndex_eq (q : Quals) (k : Str) :
    q.getMutIndex U k = .ok (if isValidKey k && foundAt (asciiLower k) q then some (lb (asciiLower k) q) else none) := by
  unfold Quals.getMutIndex
  cases hk : isValidKey k with
  | false => rw [entry_invalid U hk]; rfl
  | true =>
    obtain ⟨mk, _, he⟩ := entry_valid U hk q
    rw [he]
    cases hf : foundAt (asciiLower k) q with
    | false => rfl
    | true =>
      obtain ⟨w, _, hg, _⟩ := vec_at_found hf
      simp only [if_true, hg, Bool.and_self]

end Purl
