/-
  The ASCII character classes and `to_ascii_lowercase`; then, for every lawful Unicode instance:
  `lowercase_in_place` / `copy_as_lowercase` compute full per-character lower-casing, which is idempotent.
-/
import PurlModel.Unicode
namespace Purl

theorem toNat_ofNat {n : Nat} (h : n.isValidChar) : (Char.ofNat n).toNat = n := by
  simp [Char.ofNat, h, Char.ofNatAux, Char.toNat]

theorem isAscii_iff {c : Char} : isAscii c = true ↔ c.toNat < 128 := decide_eq_true_iff

theorem isAscii_eq_false_iff {c : Char} : isAscii c = false ↔ 128 ≤ c.toNat := by
  rw [← Bool.not_eq_true, isAscii_iff, Nat.not_lt]

theorem forall_ascii {P : Char → Prop} (h : ∀ n : Nat, n < 128 → P (Char.ofNat n)) {c : Char}
    (hc : isAscii c = true) : P c :=
  c.ofNat_toNat ▸ h c.toNat (isAscii_iff.1 hc)

theorem isAsciiUpper_iff {c : Char} : isAsciiUpper c = true ↔ 65 ≤ c.toNat ∧ c.toNat ≤ 90 := by
  simp [isAsciiUpper]

theorem isAsciiLower_iff {c : Char} : isAsciiLower c = true ↔ 97 ≤ c.toNat ∧ c.toNat ≤ 122 := by
  simp [isAsciiLower]

theorem isAsciiDigit_iff {c : Char} : isAsciiDigit c = true ↔ 48 ≤ c.toNat ∧ c.toNat ≤ 57 := by
  simp [isAsciiDigit]

theorem isAsciiHexDigit_iff {c : Char} : isAsciiHexDigit c = true ↔
    48 ≤ c.toNat ∧ c.toNat ≤ 57 ∨ 97 ≤ c.toNat ∧ c.toNat ≤ 102 ∨ 65 ≤ c.toNat ∧ c.toNat ≤ 70 := by
  simp only [isAsciiHexDigit, Bool.or_eq_true, Bool.and_eq_true, decide_eq_true_eq, isAsciiDigit_iff, or_assoc]
  rfl

theorem isAscii_of_isAsciiUpper {c : Char} (h : isAsciiUpper c = true) : isAscii c = true := by
  have := isAsciiUpper_iff.1 h
  exact isAscii_iff.2 (by omega)

theorem typeNameLetters_ascii : ∀ c ∈ typeNameLetters, isAscii c = true := by decide

theorem isAscii_of_hexDigit {c : Char} (h : isAsciiHexDigit c = true) : isAscii c = true := by
  have := isAsciiHexDigit_iff.1 h
  exact isAscii_iff.2 (by omega)

theorem isAscii_of_alnum {c : Char} (h : isAsciiAlnum c = true) : isAscii c = true := by
  simp only [isAsciiAlnum, Bool.or_eq_true, isAsciiUpper_iff, isAsciiLower_iff, isAsciiDigit_iff] at h
  exact isAscii_iff.2 (by omega)

theorem asciiLowerChar_toNat_of_upper {c : Char} (hu : isAsciiUpper c = true) :
    (asciiLowerChar c).toNat = c.toNat + 32 := by
  have := isAsciiUpper_iff.1 hu
  rw [asciiLowerChar, if_pos hu, toNat_ofNat (.inl (by omega))]

theorem asciiLowerChar_eq_self_iff {c : Char} : asciiLowerChar c = c ↔ isAsciiUpper c = false := by
  cases hu : isAsciiUpper c
  · simp [asciiLowerChar, hu]
  · have := asciiLowerChar_toNat_of_upper hu
    exact ⟨fun e => by rw [e] at this; omega, fun h => by cases h⟩

theorem asciiLowerChar_cases (c : Char) : asciiLowerChar c = c ∨ isAsciiLower (asciiLowerChar c) = true := by
  cases hu : isAsciiUpper c
  · exact .inl (asciiLowerChar_eq_self_iff.2 hu)
  · have := isAsciiUpper_iff.1 hu
    exact .inr (isAsciiLower_iff.2 (by rw [asciiLowerChar_toNat_of_upper hu]; omega))

theorem hexDigit_lower {c : Char} (h : isAsciiHexDigit c = true) : isAsciiHexDigit (asciiLowerChar c) = true := by
  cases hu : isAsciiUpper c
  · rwa [asciiLowerChar_eq_self_iff.2 hu]
  · have := isAsciiUpper_iff.1 hu
    rw [isAsciiHexDigit_iff] at h ⊢
    rw [asciiLowerChar_toNat_of_upper hu]
    omega

theorem not_upper_of_lower {c : Char} (h : isAsciiLower c = true) : isAsciiUpper c = false := by
  have := isAsciiLower_iff.1 h
  exact Bool.eq_false_iff.2 fun hu => by have := isAsciiUpper_iff.1 hu; omega

theorem asciiLowerChar_not_upper (c : Char) : isAsciiUpper (asciiLowerChar c) = false := by
  rcases asciiLowerChar_cases c with e | e
  · rw [e]; exact asciiLowerChar_eq_self_iff.1 e
  · exact not_upper_of_lower e

theorem asciiLowerChar_idem (c : Char) : asciiLowerChar (asciiLowerChar c) = asciiLowerChar c :=
  asciiLowerChar_eq_self_iff.2 (asciiLowerChar_not_upper c)

theorem asciiLower_idem (s : Str) : asciiLower (asciiLower s) = asciiLower s := by
  simp [asciiLower, asciiLowerChar_idem]

theorem asciiLowerChar_nonascii {c : Char} (h : isAscii c = false) : asciiLowerChar c = c :=
  asciiLowerChar_eq_self_iff.2 (Bool.eq_false_iff.2 fun hu => by rw [isAscii_of_isAsciiUpper hu] at h; cases h)

theorem asciiLower_of_all_lower {s : Str} (h : s.all isAsciiLower = true) : asciiLower s = s :=
  (List.map_congr_left fun c hc =>
    asciiLowerChar_eq_self_iff.2 (not_upper_of_lower (List.all_eq_true.1 h c hc))).trans (List.map_id s)

/-- validity in the shape of `is_valid_qualifier_name` and `is_valid_package_type`: a char is unchanged or
becomes a lower-case letter -/
theorem validChars_asciiLower {sp : List Char} {s : Str}
    (h : (!s.isEmpty && s.all fun c => isAsciiAlnum c || sp.contains c) = true) :
    (!(asciiLower s).isEmpty && (asciiLower s).all fun c => isAsciiAlnum c || sp.contains c) = true := by
  simp only [Bool.and_eq_true, List.all_eq_true, asciiLower, List.isEmpty_map, List.mem_map] at h ⊢
  refine ⟨h.1, fun d ⟨c, hc, e⟩ => e ▸ ?_⟩
  rcases asciiLowerChar_cases c with e' | e'
  · rw [e']; exact h.2 c hc
  · simp [isAsciiAlnum, e']

theorem flatMap_eq_asciiLower {f : Char → List Char} (hf : ∀ c, isAscii c = true → f c = [asciiLowerChar c])
    {s : Str} (h : ∀ c ∈ s, isAscii c = true) : s.flatMap f = asciiLower s := by
  induction s with
  | nil => rfl
  | cons c cs ih =>
    rw [List.flatMap_cons, hf c (h c (by simp)), ih fun d hd => h d (by simp [hd])]
    rfl

variable (U : UnicodeOps)

theorem changes_false_iff {c : Char} : U.changes c = false ↔ U.toLower c = [c] := by
  unfold UnicodeOps.changes
  simp

theorem lowerFull_eq_self_of_fixed {s : Str} (h : ∀ c ∈ s, U.toLower c = [c]) : U.lowerFull s = s := by
  induction s with
  | nil => rfl
  | cons x xs ih =>
    simp only [UnicodeOps.lowerFull, List.flatMap_cons] at ih ⊢
    rw [h x (by simp), ih (fun c hc => h c (by simp [hc]))]
    rfl

variable [LawfulUnicode U]

theorem asciiLowerChar_of_fixed {c : Char} (h : U.toLower c = [c]) : asciiLowerChar c = c := by
  cases ha : isAscii c
  · exact asciiLowerChar_nonascii ha
  · exact List.singleton_inj.1 ((LawfulUnicode.ascii_lower c ha).symm.trans h)

theorem toLower_sep {c d : Char} (hd : d ∈ U.toLower c) (hs : d ∈ ['-', '_', '.', ',', ':']) : c = d := by
  simp only [List.mem_cons, List.not_mem_nil, or_false] at hs
  cases ha : isAscii c with
  | true =>
    rw [LawfulUnicode.ascii_lower c ha, List.mem_singleton] at hd
    -- a separator is no lower-case letter, so it can only be its own lower-casing
    rcases asciiLowerChar_cases c with e | e
    · rw [hd, e]
    · rw [← hd] at e
      rcases hs with rfl | rfl | rfl | rfl | rfl <;> cases e
  | false =>
    obtain ⟨h1, h2, h3, h4, h5⟩ := LawfulUnicode.lower_sep c d ha hd
    rcases hs with e | e | e | e | e <;> contradiction

/-- what the scan has established when it ends in each state; the state only moves
`lower → mixedAscii → mixedUnicode` -/
theorem scanCase_spec (st : ScanState) (s : Str) :
    (scanCase U st s = .lower → st = .lower ∧ U.lowerFull s = s) ∧
    (scanCase U st s ≠ .mixedUnicode → U.lowerFull s = asciiLower s) := by
  induction s generalizing st with
  | nil => simp [scanCase, UnicodeOps.lowerFull, asciiLower]
  | cons c cs ih =>
    have cons_eq : U.lowerFull (c :: cs) = U.toLower c ++ U.lowerFull cs := List.flatMap_cons ..
    rw [scanCase, cons_eq, asciiLower, List.map_cons]
    cases hc : U.changes c
    · have hc := (changes_false_iff U).1 hc
      simp only [Bool.false_eq_true, ↓reduceIte]
      rw [hc, asciiLowerChar_of_fixed U hc]
      obtain ⟨ihLower, ihAscii⟩ := ih st
      exact ⟨fun h => ⟨(ihLower h).1, by rw [(ihLower h).2]; rfl⟩, fun h => by rw [ihAscii h]; rfl⟩
    · cases ha : isAscii c
      · simp
      · simp only [↓reduceIte]
        rw [LawfulUnicode.ascii_lower c ha]
        -- the scan goes on in state `mixedAscii`, so it cannot end in `lower`
        obtain ⟨ihLower, ihAscii⟩ := ih .mixedAscii
        exact ⟨fun h => (nomatch (ihLower h).1), fun h => by rw [ihAscii h]; rfl⟩

theorem lowerInPlace_eq_lowerFull (s : Str) : lowerInPlace U s = U.lowerFull s := by
  have := scanCase_spec U .lower s
  unfold lowerInPlace
  split
  next h => exact (this.1 h).2.symm
  next h => exact (this.2 (by simp [h])).symm
  next => rfl

theorem copyAsLower_eq_lowerFull (s : Str) : copyAsLower U s = U.lowerFull s :=
  lowerInPlace_eq_lowerFull U s

theorem lowerFull_idem (s : Str) : U.lowerFull (U.lowerFull s) = U.lowerFull s := by
  apply lowerFull_eq_self_of_fixed
  intro d hd
  simp only [UnicodeOps.lowerFull, List.mem_flatMap] at hd
  obtain ⟨c, _, hdc⟩ := hd
  exact LawfulUnicode.lower_idem c d hdc

theorem lowerFull_no_upper (s : Str) : ∀ c ∈ U.lowerFull s, isAsciiUpper c = false := by
  intro c hc
  obtain ⟨d, _, hd⟩ := List.mem_flatMap.1 hc
  exact asciiLowerChar_eq_self_iff.1 (asciiLowerChar_of_fixed U (LawfulUnicode.lower_idem d c hd))

theorem lowerInPlace_idem (s : Str) : lowerInPlace U (lowerInPlace U s) = lowerInPlace U s := by
  rw [lowerInPlace_eq_lowerFull, lowerInPlace_eq_lowerFull, lowerFull_idem]

theorem lowerFull_append (a b : Str) : U.lowerFull (a ++ b) = U.lowerFull a ++ U.lowerFull b := by
  simp [UnicodeOps.lowerFull]

theorem lowerFull_ne_nil {s : Str} (h : s ≠ []) : U.lowerFull s ≠ [] := by
  cases s with
  | nil => exact absurd rfl h
  | cons c cs =>
    simp only [UnicodeOps.lowerFull, List.flatMap_cons]
    intro e
    have := List.append_eq_nil_iff.1 e
    exact LawfulUnicode.lower_ne_nil c this.1

end Purl
