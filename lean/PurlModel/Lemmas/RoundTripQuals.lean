/-
  Decoding what `Display` printed for the qualifiers gives the qualifiers back.
-/
import PurlModel.Lemmas.Encode
import PurlModel.Lemmas.ParseWF
namespace Purl
open Generated

/-- `key=value` as printed (valid keys are printed as they are) -/
def itemStr (kv : Str × Str) : Str := kv.1 ++ '=' :: pctEncode qvalueEsc kv.2

theorem formatQuals_cons_eq_join (kv : Str × Str) (rest : Quals) (hk : ∀ x ∈ kv :: rest, isValidKey x.1 = true) (pre : Char) :
    formatQuals (kv :: rest) pre = pre :: joinWith '&' ((kv :: rest).map itemStr) := by
  induction rest generalizing kv pre with
  | nil => simp [formatQuals, joinWith, itemStr, pctEncode_key_of_valid (hk kv (by simp))]
  | cons kv2 rest' ih =>
    rw [formatQuals, ih kv2 (fun x hx => hk x (by simp [hx])) '&', pctEncode_key_of_valid (hk kv (by simp))]
    simp [joinWith, itemStr]

theorem amp_not_mem_itemStr {kv : Str × Str} (hk : isValidKey kv.1 = true) : '&' ∉ itemStr kv := by
  unfold itemStr
  simp only [List.mem_append, List.mem_cons, not_or]
  exact ⟨validKey_no_sep hk (by decide), by decide, not_mem_pctEncode (by decide) (by decide) qvalueEsc_amp⟩

theorem sep_not_mem_items (q : Quals) (hk : ∀ kv ∈ q, isValidKey kv.1 = true) {c : Char} (hc : c ∈ ['#', '?', '@']) :
    c ∉ joinWith '&' (q.map itemStr) := by
  have hc' : c ∈ ['&', '=', '?', '#', '@', '/'] := by revert c; decide +kernel
  have hne : c ≠ '&' ∧ c ≠ '=' := by revert c; decide +kernel
  rw [mem_joinWith_of_ne hne.1]
  rintro ⟨_, hp, hm⟩
  obtain ⟨kv, hkv, rfl⟩ := List.mem_map.1 hp
  rcases List.mem_append.1 hm with h | h
  · exact validKey_no_sep (hk kv hkv) hc' h
  · rcases List.mem_cons.1 h with rfl | h
    · exact hne.2 rfl
    · exact qvalueEsc_reserved.not_mem hc _ h

variable (U : UnicodeOps) [LawfulUnicode U]

theorem qualItems_printed (todo done : Quals) (hs : Sorted (done ++ todo)) (hk : ∀ kv ∈ todo, KeyOk kv.1)
    (hv : ∀ kv ∈ todo, kv.2 ≠ []) :
    qualItems U (todo.map itemStr) done = .ok (done ++ todo) := by
  induction todo generalizing done with
  | nil => simp [qualItems]
  | cons kv rest ih =>
    obtain ⟨k, v⟩ := kv
    have hkk := hk (k, v) (by simp)
    have hne : v.isEmpty = false := by simpa using hv (k, v) (by simp)
    -- `done` lies below `k`, so `k` is new and goes to the end
    have hlt : ∀ x ∈ done, cmpStr x.1 k = .lt := fun x hx => (List.pairwise_append.1 hs).2.2 x hx (k, v) (by simp)
    rw [List.map_cons, qualItems_cons, itemStr, splitOnce_append _ (validKey_no_sep hkk.1 (by decide))]
    simp only [hkk.1, hkk.2, foundAt_of_all_lt hlt, qvalueEsc_reserved.decode, hne,
      upsert_of_all_lt v hlt, Bool.not_false, Bool.and_self, if_true, Bool.false_eq_true, if_false]
    have := ih (done ++ [(k, v)]) (by simpa using hs) (fun x hx => hk x (by simp [hx])) (fun x hx => hv x (by simp [hx]))
    simpa using this

theorem decodeQualifiers_printed (q : Quals) (hq : QInv q) (hv : ∀ kv ∈ q, kv.2 ≠ []) (hne : q ≠ []) :
    decodeQualifiers U (joinWith '&' (q.map itemStr)) [] = .ok q := by
  rw [decodeQualifiers_joinWith U (by simpa using hne)]
  · have := qualItems_printed U q [] (by simpa using hq.1) hq.2 hv
    simpa using this
  · intro p hp
    obtain ⟨kv, hkv, rfl⟩ := List.mem_map.1 hp
    exact amp_not_mem_itemStr (hq.2 kv hkv).1

end Purl
