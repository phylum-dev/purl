/-
  The representation invariant of `Qualifiers` (`QInv`: keys valid, lower-case, strictly ascending) and
  the abstraction to a finite map (`lookup`): `upsert`, `eraseS`, `filter` and value maps preserve `QInv`
  and act on `lookup` as the map operations; the content determines the list (`QInv.ext`).
-/
import PurlModel.Lemmas.Quals
namespace Purl

def Sorted (q : Quals) : Prop := q.Pairwise fun a b => cmpStr a.1 b.1 = .lt

def KeyOk (k : Str) : Prop := isValidKey k = true ∧ asciiLower k = k

def QInv (q : Quals) : Prop := Sorted q ∧ ∀ kv ∈ q, KeyOk kv.1

/-- the reference map: exact-key lookup in an association list -/
def lookup (q : Quals) (p : Str) : Option Str := (q.find? fun kv => kv.1 == p).map (·.2)

theorem QInv_nil : QInv [] := ⟨List.Pairwise.nil, by simp⟩

theorem lookup_nil (p : Str) : lookup [] p = none := rfl

theorem lookup_cons (k w : Str) (rest : Quals) (p : Str) :
    lookup ((k, w) :: rest) p = if k = p then some w else lookup rest p := by
  unfold lookup
  by_cases h : k = p
  · simp [h]
  · simp [h]

theorem lookup_eq_none_of_lt {q : Quals} {p : Str} (h : ∀ x ∈ q, cmpStr p x.1 = .lt) : lookup q p = none := by
  unfold lookup
  rw [List.find?_eq_none.2 fun x hx => by simpa using (ne_of_cmpStr_lt (h x hx)).symm]
  rfl

theorem isValidKey_asciiLower {k : Str} (h : isValidKey k = true) : isValidKey (asciiLower k) = true :=
  validChars_asciiLower h

theorem keyOk_asciiLower {k : Str} (h : isValidKey k = true) : KeyOk (asciiLower k) :=
  ⟨isValidKey_asciiLower h, asciiLower_idem k⟩

theorem lookupS_eq_lookup {q : Quals} (hs : Sorted q) (p : Str) : lookupS p q = lookup q p := by
  induction q with
  | nil => rfl
  | cons kv rest ih =>
    obtain ⟨k, w⟩ := kv
    obtain ⟨hk, hs'⟩ := List.pairwise_cons.1 hs
    simp only [lookupS, lookup_cons]
    cases hc : cmpStr k p with
    | lt => simp only [if_neg (ne_of_cmpStr_lt hc), ih hs']
    | eq => simp only [if_pos (cmpStr_eq_iff.1 hc)]
    | gt =>
      -- p < k < every key of rest, so p is not in rest
      have hpk := cmpStr_gt_iff.1 hc
      simp only [if_neg (ne_of_cmpStr_lt hpk).symm]
      exact (lookup_eq_none_of_lt fun x hx => cmpStr_lt_trans hpk (hk x hx)).symm

theorem foundAt_eq_lookup {q : Quals} (hs : Sorted q) (p : Str) : foundAt p q = (lookup q p).isSome := by
  rw [foundAt_eq_lookupS, lookupS_eq_lookup hs]

theorem sorted_iff_keys (q : Quals) : Sorted q ↔ (q.map (·.1)).Pairwise fun x y => cmpStr x y = .lt := by
  rw [List.pairwise_map, Sorted]

theorem Sorted.nodup_keys {q : Quals} (hq : Sorted q) : (q.map (·.1)).Nodup :=
  List.pairwise_map.2 (List.Pairwise.imp ne_of_cmpStr_lt hq)

theorem mem_iff_lookup {q : Quals} (hq : (q.map (·.1)).Nodup) {k v : Str} : (k, v) ∈ q ↔ lookup q k = some v := by
  constructor
  · intro h
    induction q with
    | nil => simp at h
    | cons x rest ih =>
      obtain ⟨k', w⟩ := x
      obtain ⟨hk, hs'⟩ := List.nodup_cons.1 hq
      rcases List.mem_cons.1 h with e | m
      · cases e; simp [lookup_cons]
      · have : k' ≠ k := fun e => hk (e ▸ List.mem_map_of_mem (f := (·.1)) m)
        simp [lookup_cons, this, ih hs' m]
  · intro h
    obtain ⟨x, hx, rfl⟩ := Option.map_eq_some_iff.1 h
    have hk : x.1 = k := by simpa using List.find?_some hx
    exact hk ▸ List.mem_of_find?_eq_some hx

theorem lookup_perm {a b : Quals} (h : a.Perm b) (hn : (a.map (·.1)).Nodup) (p : Str) : lookup a p = lookup b p :=
  Option.ext fun v => by
    rw [← mem_iff_lookup hn, ← mem_iff_lookup ((h.map _).nodup_iff.1 hn), h.mem_iff]

theorem Sorted.nodup {q : Quals} (hq : Sorted q) : q.Nodup :=
  List.Pairwise.imp (fun hxy e => ne_of_cmpStr_lt hxy (congrArg Prod.fst e)) hq

theorem sorted_sublist {a q : Quals} (h : a.Sublist q) (hs : Sorted q) : Sorted a :=
  List.Pairwise.sublist h hs

theorem lookup_filter {q : Quals} (hq : Sorted q) (f : Str → Str → Bool) (p : Str) :
    lookup (q.filter fun kv => f kv.1 kv.2) p = (lookup q p).filter (f p) := by
  refine Option.ext fun v => ?_
  rw [← mem_iff_lookup (sorted_sublist List.filter_sublist hq).nodup_keys, List.mem_filter, mem_iff_lookup hq.nodup_keys,
    Option.filter_eq_some_iff]

theorem eraseS_eq_filter {q : Quals} (hs : Sorted q) (p : Str) : eraseS p q = q.filter fun kv => kv.1 != p := by
  induction q with
  | nil => rfl
  | cons x rest ih =>
    obtain ⟨k, w⟩ := x
    obtain ⟨hk, hs'⟩ := List.pairwise_cons.1 hs
    have keep : ∀ {l : Quals}, (∀ x ∈ l, cmpStr p x.1 = .lt) → l.filter (fun kv => kv.1 != p) = l := fun h =>
      List.filter_eq_self.2 fun x hx => by simpa using (ne_of_cmpStr_lt (h x hx)).symm
    simp only [eraseS, List.filter_cons]
    cases hc : cmpStr k p with
    | lt => simp [ne_of_cmpStr_lt hc, ih hs']
    | eq => cases cmpStr_eq_iff.1 hc; simp [keep hk]
    | gt =>
      have hpk := cmpStr_gt_iff.1 hc
      simp [(ne_of_cmpStr_lt hpk).symm, keep fun x hx => cmpStr_lt_trans hpk (hk x hx)]

theorem lookup_eraseS {p : Str} {q : Quals} (hs : Sorted q) (p' : Str) :
    lookup (eraseS p q) p' = if p' = p then none else lookup q p' := by
  rw [eraseS_eq_filter hs, lookup_filter hs fun k _ => k != p]
  cases lookup q p' <;> by_cases e : p' = p <;> simp [e, Option.filter]

theorem mem_upsert {p v : Str} {q : Quals} {kv : Str × Str} (h : kv ∈ upsert p v q) :
    kv = (p, v) ∨ kv ∈ q := by
  cases hf : foundAt p q
  · rwa [upsert_not_found hf, List.mem_insertIdx (lb_le_length p q)] at h
  · obtain ⟨pre, w, rest, rfl, -, -, hu, -⟩ := scan_found hf
    rw [hu] at h
    simp only [List.mem_append, List.mem_cons] at h ⊢
    exact h.elim (fun h => .inr (.inl h)) fun h => h.elim .inl fun h => .inr (.inr (.inr h))

theorem sorted_upsert {p : Str} (v : Str) {q : Quals} (hs : Sorted q) : Sorted (upsert p v q) := by
  induction q with
  | nil => simp [upsert, Sorted]
  | cons x rest ih =>
    obtain ⟨k, w⟩ := x
    obtain ⟨hk, hs'⟩ := List.pairwise_cons.1 hs
    simp only [upsert]
    cases hc : cmpStr k p with
    | lt =>
      refine List.pairwise_cons.2 ⟨fun b hb => ?_, ih hs'⟩
      rcases mem_upsert hb with rfl | m
      · exact hc
      · exact hk b m
    | eq => exact List.pairwise_cons.2 ⟨hk, hs'⟩
    | gt =>
      have hpk := cmpStr_gt_iff.1 hc
      refine List.pairwise_cons.2 ⟨fun b hb => ?_, hs⟩
      rcases List.mem_cons.1 hb with rfl | m
      · exact hpk
      · exact cmpStr_lt_trans hpk (hk b m)

/-- `upsert` is the map update, sorted or not: `lookup` and `upsert` both stop at the first match -/
theorem lookup_upsert {p : Str} (v : Str) {q : Quals} (p' : Str) :
    lookup (upsert p v q) p' = if p' = p then some v else lookup q p' := by
  induction q with
  | nil => simp only [upsert, lookup_cons, lookup_nil, eq_comm]
  | cons x rest ih =>
    obtain ⟨k, w⟩ := x
    simp only [upsert]
    cases hc : cmpStr k p with
    | lt =>
      simp only [lookup_cons, ih]
      by_cases e : k = p'
      · rw [if_pos e, if_neg (e ▸ ne_of_cmpStr_lt hc), if_pos e]
      · rw [if_neg e, if_neg e]
    | eq =>
      cases cmpStr_eq_iff.1 hc
      simp only [lookup_cons]
      by_cases e : p = p'
      · rw [if_pos e, if_pos e.symm]
      · rw [if_neg e, if_neg (Ne.symm e), if_neg e]
    | gt => simp only [lookup_cons, eq_comm]

theorem QInv_upsert {p : Str} (v : Str) {q : Quals} (hq : QInv q) (hp : KeyOk p) : QInv (upsert p v q) := by
  refine ⟨sorted_upsert v hq.1, ?_⟩
  intro kv h
  rcases mem_upsert h with e | m
  · subst e; exact hp
  · exact hq.2 kv m

theorem QInv_filter (f : Str × Str → Bool) {q : Quals} (hq : QInv q) : QInv (q.filter f) :=
  ⟨sorted_sublist List.filter_sublist hq.1, fun kv m => hq.2 kv (List.mem_filter.1 m).1⟩

theorem QInv_eraseS (p : Str) {q : Quals} (hq : QInv q) : QInv (eraseS p q) :=
  eraseS_eq_filter hq.1 p ▸ QInv_filter _ hq

theorem QInv_of_keys_eq {a b : Quals} (h : a.map (·.1) = b.map (·.1)) (hb : QInv b) : QInv a := by
  refine ⟨(sorted_iff_keys a).2 (h ▸ (sorted_iff_keys b).1 hb.1), fun kv hm => ?_⟩
  obtain ⟨x, hx, e⟩ := List.mem_map.1 (h ▸ List.mem_map_of_mem hm : kv.1 ∈ b.map (·.1))
  exact e ▸ hb.2 x hx

theorem QInv_mapValues (f : Str × Str → Str) {q : Quals} (hq : QInv q) :
    QInv (q.map fun kv => (kv.1, f kv)) :=
  QInv_of_keys_eq (by simp only [List.map_map, Function.comp_def]) hq

theorem get_of_mem (U : UnicodeOps) [LawfulUnicode U] {q : Quals} (hq : QInv q) {k v : Str} (h : (k, v) ∈ q) :
    q.get U k = .ok (some v) := by
  have hk := hq.2 (k, v) h
  rw [get_eq U, hk.1, hk.2, lookupS_eq_lookup hq.1, (mem_iff_lookup hq.1.nodup_keys).1 h]
  rfl

/-- strictly ascending lists with the same members are permutations of each other, and a sorted
permutation is unique; of `QInv` only `Sorted` is needed -/
theorem QInv.ext {a b : Quals} (ha : Sorted a) (hb : Sorted b) (h : ∀ p, lookup a p = lookup b p) : a = b := by
  have perm : a.Perm b := (List.perm_ext_iff_of_nodup ha.nodup hb.nodup).2 fun kv => by
    rw [mem_iff_lookup ha.nodup_keys, mem_iff_lookup hb.nodup_keys, h]
  exact perm.eq_of_pairwise (fun x y _ _ hxy hyx => absurd hyx (cmpStr_lt_asymm hxy)) ha hb

theorem upsert_same {q : Quals} (hs : Sorted q) {k v : Str} (h : lookup q k = some v) : upsert k v q = q := by
  apply QInv.ext (sorted_upsert v hs) hs
  intro p
  rw [lookup_upsert v]
  by_cases e : p = k
  · subst e; simp [h]
  · simp [e]

end Purl
