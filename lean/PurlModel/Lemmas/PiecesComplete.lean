/-
  The converse of `parse_of_pieces`: whatever `parsePre` and `parsePost` accept is an assembled
  `Pieces` value meeting `Pieces.Ok`, whose pieces decode to what they returned.  Together the two
  characterise the accepted language, for every shape (`parseWith_ok_iff_spelling`); the
  decomposition is unique (`Pieces.assemble_inj`).
-/
import PurlModel.Lemmas.Pieces
namespace Purl
open Generated

variable (U : UnicodeOps)

def sfx (c : Char) : Option Str → Str
  | some x => c :: x
  | none => []

def nsp : Option Str → Str
  | some x => x ++ ['/']
  | none => []

theorem Pieces.subPart_eq (w : Pieces) : w.subPart = sfx '#' w.sub := rfl
theorem Pieces.qPart_eq (w : Pieces) : w.qPart = sfx '?' w.quals := rfl
theorem Pieces.verPart_eq (w : Pieces) : w.verPart = sfx '@' w.ver := rfl
theorem Pieces.nsPart_eq (w : Pieces) : w.nsPart = nsp w.ns := rfl

theorem Pieces.cut_sub (w : Pieces) :
    w.ty ++ '/' :: (w.path ++ (w.qPart ++ w.subPart)) = (w.ty ++ '/' :: (w.path ++ w.qPart)) ++ sfx '#' w.sub := by
  rw [w.subPart_eq]; simp

theorem Pieces.cut_quals (w : Pieces) :
    w.ty ++ '/' :: (w.path ++ w.qPart) = (w.ty ++ '/' :: w.path) ++ sfx '?' w.quals := by
  rw [w.qPart_eq]; simp

theorem Pieces.cut_ver (w : Pieces) : w.path = (w.nsPart ++ w.name) ++ sfx '@' w.ver := by
  rw [Pieces.path, w.verPart_eq, List.append_assoc]

theorem splitSubpath_shape {s s' sub : Str} (h : splitSubpath s = .ok (s', sub)) :
    ∃ o : Option Str, s = s' ++ sfx '#' o ∧ (match o with | some x => '#' ∉ x | none => '#' ∉ s') ∧
      (match o with | some x => decodeSubpath x = .ok sub | none => sub = []) := by
  unfold splitSubpath at h
  split at h
  · rename_i a x hr
    split at h <;> cases h
    exact ⟨some x, (rsplitOnce_eq_some hr).1, (rsplitOnce_eq_some hr).2, ‹_›⟩
  · cases h
    exact ⟨none, (List.append_nil _).symm, rsplitOnce_eq_none ‹_›, rfl⟩

theorem splitQuals_shape {s s' : Str} {q : Quals} (h : splitQuals U s = .ok (s', q)) :
    ∃ o : Option Str, s = s' ++ sfx '?' o ∧ (match o with | some x => '?' ∉ x | none => '?' ∉ s') ∧
      (match o with | some x => decodeQualifiers U x [] = .ok q | none => q = []) := by
  unfold splitQuals at h
  split at h
  · rename_i a x hr
    split at h <;> cases h
    exact ⟨some x, (rsplitOnce_eq_some hr).1, (rsplitOnce_eq_some hr).2, ‹_›⟩
  · cases h
    exact ⟨none, (List.append_nil _).symm, rsplitOnce_eq_none ‹_›, rfl⟩

theorem splitVersion_shape {s s' ver : Str} (h : splitVersion s = .ok (s', ver)) :
    ∃ o : Option Str, s = s' ++ sfx '@' o ∧ (match o with | some x => '@' ∉ x | none => '@' ∉ s') ∧
      (match o with | some x => decode x = .ok ver | none => ver = []) := by
  unfold splitVersion at h
  split at h
  · rename_i a x hr
    split at h <;> cases h
    exact ⟨some x, (rsplitOnce_eq_some hr).1, (rsplitOnce_eq_some hr).2, ‹_›⟩
  · cases h
    exact ⟨none, (List.append_nil _).symm, rsplitOnce_eq_none ‹_›, rfl⟩

theorem splitNamespace_shape {s name ns : Str} (h : splitNamespace s = .ok (name, ns)) :
    ∃ o : Option Str, s = nsp o ++ name ∧ '/' ∉ name ∧
      (match o with | some x => decodeNamespace x = .ok ns | none => ns = []) := by
  unfold splitNamespace at h
  split at h
  · rename_i a x hr
    split at h <;> cases h
    exact ⟨some a, by simpa [nsp] using (rsplitOnce_eq_some hr).1, (rsplitOnce_eq_some hr).2, ‹_›⟩
  · cases h
    exact ⟨none, rfl, rsplitOnce_eq_none ‹_›, rfl⟩

/-- the result of the two parser stages, read back as a decomposition of the input -/
structure Decomposed (s : Str) (w : Pieces) (ns name ver sub : Str) (q : Quals) : Prop where
  ok : w.Ok
  eq : s = w.assemble
  hsub : match w.sub with | some x => decodeSubpath x = .ok sub | none => sub = []
  hq : match w.quals with | some x => decodeQualifiers U x [] = .ok q | none => q = []
  hns : match w.ns with | some x => decodeNamespace x = .ok ns | none => ns = []
  hname : decode w.name = .ok name
  hver : match w.ver with | some x => decode x = .ok ver | none => ver = []

/-- the grammar is complete -/
theorem pieces_of_parse {s ty rest : Str} {parts0 parts : Parts}
    (hpre : parsePre U s = .ok (ty, rest, parts0)) (hpost : parsePost rest parts0 = .ok parts) :
    ∃ w : Pieces, w.ty = ty ∧ Decomposed U s w parts.ns parts.name parts.version parts.subpath parts.quals := by
  obtain ⟨r, t1, t2, sub, q, hstrip, hss, hsq, hso, hvalid, rfl⟩ := (parsePre_ok_iff U).1 hpre
  obtain ⟨r1, ver, nm, ns, dn, hsv, hsn, hdn, rfl⟩ := parsePost_ok_iff.1 hpost
  obtain ⟨lead, hlead⟩ := trimStart_decomp '/' r
  -- each stage read its input as a front and an optional suffix: the suffixes are the pieces
  obtain ⟨osub, hsubEq, hsubC, hsubD⟩ := splitSubpath_shape hss
  obtain ⟨oq, rfl, hqC, hqD⟩ := splitQuals_shape U hsq
  obtain ⟨rfl, _⟩ := splitOnce_eq_some hso
  obtain ⟨over, hverEq, hverC, hverD⟩ := splitVersion_shape hsv
  obtain ⟨ons, rfl, hslash, hnsD⟩ := splitNamespace_shape hsn
  let w : Pieces := ⟨lead, ty, ons, nm, over, oq, osub⟩
  have hP : w.path = rest := by
    rw [hverEq, w.cut_ver, w.nsPart_eq]
  refine ⟨w, rfl, ⟨hvalid, ?_, ?_, ?_, hslash⟩, ?_, hsubD, hqD, hnsD, hdn, hverD⟩
  -- a separator absent from a front is absent from the shorter front `Pieces.Ok` speaks of
  · cases osub with
    | some x => exact hsubC
    | none =>
      show '#' ∉ w.path ++ w.qPart
      rw [hP, w.qPart_eq]
      intro hm
      apply hsubC
      simp only [List.append_assoc, List.cons_append]
      exact List.mem_append_right _ (List.mem_cons_of_mem _ hm)
  · cases oq with
    | some x => exact hqC
    | none =>
      show '?' ∉ w.path
      rw [hP]
      exact fun hm => hqC (List.mem_append_right _ (List.mem_cons_of_mem _ hm))
  · cases over with
    | some x => exact hverC
    | none => rw [w.nsPart_eq]; exact hverC
  · rw [stripPrefix_eq_some hstrip, hlead, hsubEq, Pieces.assemble, w.cut_sub, w.cut_quals, hP]

/-- accepted ⇔ legal spelling, for every shape: the pieces decode, the shape converts the type as
written, and `build()` of the decoded components succeeds; the result is that of `build()` -/
theorem parseWith_ok_iff_spelling [LawfulUnicode U] {τ ε σ : Type} (S : Shape τ ε σ) (s : Str) (st : σ) (p : GPurl τ) :
    (parseWith U S s st).1 = .ok p ↔
      ∃ (w : Pieces) (t : τ) (ns name ver sub : Str) (q : Quals), Decomposed U s w ns name ver sub q ∧
        (S.fromStr w.ty st).1 = .ok t ∧
        (buildWith U S ⟨t, { ns := ns, name := name, version := ver, quals := q, subpath := sub }⟩
          (S.fromStr w.ty st).2).1 = .ok p := by
  constructor
  · intro h
    obtain ⟨ty, rest, parts0, t, parts, t', parts2, hpre, ht, hpost, hfin, hpf⟩ := parseWith_ok_decompose U S h
    obtain ⟨w, rfl, hd⟩ := pieces_of_parse U hpre hpost
    refine ⟨w, t, parts.ns, parts.name, parts.version, parts.subpath, parts.quals, hd, ht, ?_⟩
    rw [buildWith_fst, hfin]
    exact hpf
  · rintro ⟨w, t, ns, name, ver, sub, q, hd, ht, hb⟩
    rw [hd.eq, parseWith_of_pieces U S w hd.ok.sep hd.ok.ty_valid (Pieces.subR_eq_ok.2 hd.hsub)
      (Pieces.qualsR_eq_ok.2 hd.hq) (Pieces.verR_eq_ok.2 hd.hver) (Pieces.nsR_eq_ok.2 hd.hns) hd.hname]
    cases hf : S.fromStr w.ty st with
    | mk r st' =>
      rw [hf] at ht hb
      cases ht
      exact hb

theorem rsplitOnce_sfx {c : Char} {a : Str} {o : Option Str} (h : match o with | some x => c ∉ x | none => c ∉ a) :
    rsplitOnce c (a ++ sfx c o) = o.map fun x => (a, x) :=
  rsplitOnce_opt h

theorem rsplitOnce_nsp {n : Str} (o : Option Str) (h : '/' ∉ n) :
    rsplitOnce '/' (nsp o ++ n) = o.map fun x => (x, n) := by
  cases o with
  | none => rw [nsp, List.nil_append, rsplitOnce_none_of_not_mem h]; rfl
  | some x => rw [nsp, List.append_assoc]; exact rsplitOnce_append x h

theorem sfx_inj {c : Char} {a a' : Str} {o o' : Option Str}
    (h : match o with | some x => c ∉ x | none => c ∉ a)
    (h' : match o' with | some x => c ∉ x | none => c ∉ a')
    (e : a ++ sfx c o = a' ++ sfx c o') : a = a' ∧ o = o' := by
  have k := congrArg (rsplitOnce c) e
  rw [rsplitOnce_sfx h, rsplitOnce_sfx h'] at k
  cases o <;> cases o' <;> cases k
  · exact ⟨by simpa [sfx] using e, rfl⟩
  · exact ⟨rfl, rfl⟩

theorem nsp_inj {n n' : Str} {o o' : Option Str} (h : '/' ∉ n) (h' : '/' ∉ n')
    (e : nsp o ++ n = nsp o' ++ n') : o = o' ∧ n = n' := by
  have k := congrArg (rsplitOnce '/') e
  rw [rsplitOnce_nsp o h, rsplitOnce_nsp o' h'] at k
  cases o <;> cases o' <;> cases k
  · exact ⟨rfl, by simpa [nsp] using e⟩
  · exact ⟨rfl, rfl⟩

/-- with the number of leading slashes given, the assembled string determines every piece -/
theorem Pieces.assemble_inj {w w' : Pieces} (sep : w.Sep) (sep' : w'.Sep) (hl : w.lead = w'.lead)
    (e : w.assemble = w'.assemble) : w = w' := by
  unfold Pieces.assemble at e
  rw [hl] at e
  have e1 := List.append_cancel_left (List.append_cancel_left e)
  rw [w.cut_sub, w'.cut_sub] at e1
  obtain ⟨e2, hsub⟩ := sfx_inj sep.hash_front sep'.hash_front e1
  rw [w.cut_quals, w'.cut_quals] at e2
  obtain ⟨e3, hq⟩ := sfx_inj sep.qmark_front sep'.qmark_front e2
  have k := congrArg (splitOnce '/') e3
  rw [splitOnce_append _ sep.ty_slash, splitOnce_append _ sep'.ty_slash] at k
  obtain ⟨hty, hpath⟩ := Prod.mk.inj (Option.some.inj k)
  rw [w.cut_ver, w'.cut_ver] at hpath
  obtain ⟨e4, hver⟩ := sfx_inj sep.at_ sep'.at_ hpath
  rw [w.nsPart_eq, w'.nsPart_eq] at e4
  obtain ⟨hns, hname⟩ := nsp_inj sep.slash sep'.slash e4
  cases w; cases w'
  simp only at hl hsub hq hty hver hns hname
  subst hl hsub hq hty hver hns hname
  rfl

end Purl
