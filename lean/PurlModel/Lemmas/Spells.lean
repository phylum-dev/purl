/-
  A generative description of the legal spellings of a component tuple, which the component decoders read
  back as the component (the parse theorem over these relations is `C02.parse_spells`): `NsSp segs pieces`,
  the pieces between raw '/' spelling the namespace segments (each percent-spelled; empty pieces anywhere);
  `SubSp`, the same for the subpath, where raw "", "." and ".." pieces are skipped; `ItemSp`, a qualifier item.
-/
import PurlModel.Lemmas.PctComplete
import PurlModel.Lemmas.NormPaths
import PurlModel.Lemmas.QualOrder
namespace Purl

theorem not_hex_slash : hexValChar '/' = none := by decide
theorem not_hex_amp : hexValChar '&' = none := by decide
theorem not_hex_eq : hexValChar '=' = none := by decide
theorem not_hex_dot : hexValChar '.' = none := by decide

theorem hexValChar_isSome_hex {c : Char} {v : UInt8} (h : hexValChar c = some v) :
    c ≠ '/' ∧ c ≠ '&' ∧ c ≠ '=' ∧ c ≠ '.' ∧ c ≠ '%' := by
  have k : ∀ x : Char, hexValChar x = none → c ≠ x := fun x hx e => by rw [e, hx] at h; cases h
  exact ⟨k _ not_hex_slash, k _ not_hex_amp, k _ not_hex_eq, k _ not_hex_dot, k _ (by decide)⟩

theorem isDotSeg_iff {d : Str} : isDotSeg d = true ↔ d = [] ∨ d = ['.'] ∨ d = ['.', '.'] := by
  simp [isDotSeg, or_assoc]

theorem pctSp_dotSeg {s w : Str} (h : PctSp s w) (hw : isDotSeg w = true) : s = w := by
  rcases isDotSeg_iff.1 hw with rfl | rfl | rfl <;> exact h.unique (decode_of_bytes (by decide +kernel))

inductive NsSp : List Str → List Str → Prop where
  | nil : NsSp [] []
  | empty (segs ps : List Str) : NsSp segs ps → NsSp segs ([] :: ps)
  | seg (s w : Str) (segs ps : List Str) : s ≠ [] → '/' ∉ s → PctSp s w → NsSp segs ps → NsSp (s :: segs) (w :: ps)

theorem nsSp_pieces {segs ps : List Str} (h : NsSp segs ps) : ∀ p ∈ ps, '/' ∉ p := by
  induction h with
  | nil => simp
  | empty segs ps _ ih => exact List.forall_mem_cons.2 ⟨by simp, ih⟩
  | seg s w segs ps _ hsl hp _ ih =>
    exact List.forall_mem_cons.2 ⟨pctSp_not_mem hp (by decide) not_hex_slash hsl, ih⟩

theorem NsSp.toSpx {segs ps : List Str} (h : NsSp segs ps) : NsSpx segs ps := by
  induction h with
  | nil => exact .nil
  | empty segs ps _ ih => exact .empty segs ps ih
  | seg s w segs ps hne hsl hp _ ih => exact .seg s w segs ps (pctSp_ne_nil hp hne) hsl hp.toSpx ih

theorem decodeNamespace_spelled {segs ps : List Str} (h : NsSp segs ps) (hne : ps ≠ []) :
    decodeNamespace (joinWith '/' ps) = .ok (joinWith '/' segs) := by
  rw [decodeNamespace_eq, nsDecoded_trim, splitOn_joinWith hne (nsSp_pieces h), (nsDecoded_iff ps segs).2 h.toSpx]
  rfl

inductive SubSp : List Str → List Str → Prop where
  | nil : SubSp [] []
  | skip (d : Str) (segs ps : List Str) : isDotSeg d = true → SubSp segs ps → SubSp segs (d :: ps)
  | seg (s w : Str) (segs ps : List Str) : s ≠ [] → '/' ∉ s → s ≠ ['.'] → s ≠ ['.', '.'] → PctSp s w →
      SubSp segs ps → SubSp (s :: segs) (w :: ps)

theorem dotSeg_no_slash {d : Str} (h : isDotSeg d = true) : '/' ∉ d := by
  rcases isDotSeg_iff.1 h with rfl | rfl | rfl <;> decide

theorem subSp_pieces {segs ps : List Str} (h : SubSp segs ps) : ∀ p ∈ ps, '/' ∉ p := by
  induction h with
  | nil => simp
  | skip d segs ps hd _ ih => exact List.forall_mem_cons.2 ⟨dotSeg_no_slash hd, ih⟩
  | seg s w segs ps _ hsl _ _ hp _ ih =>
    exact List.forall_mem_cons.2 ⟨pctSp_not_mem hp (by decide) not_hex_slash hsl, ih⟩

theorem SubSp.toSpx {segs ps : List Str} (h : SubSp segs ps) : SubSpx segs ps := by
  induction h with
  | nil => exact .nil
  | skip d segs ps hd _ ih => exact .skip d segs ps hd ih
  | seg s w segs ps hne hsl h1 h2 hp _ ih =>
    refine .seg s w segs ps ?_ (by simp [badSubSeg, hsl, h1, h2]) hp.toSpx ih
    -- a spelling that reads as a dot segment spells that dot segment, and `s` is none of the three
    refine Bool.eq_false_iff.2 fun hdw => ?_
    obtain rfl := pctSp_dotSeg hp hdw
    rcases isDotSeg_iff.1 hdw with e | e | e
    · exact hne e
    · exact h1 e
    · exact h2 e

theorem decodeSubpath_spelled {segs ps : List Str} (h : SubSp segs ps) (hne : ps ≠ []) :
    decodeSubpath (joinWith '/' ps) = .ok (joinWith '/' segs) := by
  rw [decodeSubpath_eq, subDecoded_trim, splitOn_joinWith hne (subSp_pieces h), (subDecoded_iff ps segs).2 h.toSpx]
  rfl

/-- `Key=value` spelling the pair (k, d): the key as written is valid and lower-cases to `k`; the
value is a percent-spelling of `d` without a raw '&', which would end the item -/
structure ItemSp (item k d : Str) : Prop where
  ex : ∃ k0 vw, item = k0 ++ '=' :: vw ∧ isValidKey k0 = true ∧ k = asciiLower k0 ∧ PctSp d vw ∧ '&' ∉ vw

theorem ItemSp.ok {item k d : Str} (h : ItemSp item k d) : ItemOk item k d := by
  obtain ⟨k0, vw, rfl, hk, rfl, hp, _⟩ := h.ex
  exact ⟨k0, vw, splitOnce_append vw (validKey_no_sep hk (by decide)), hk, pct_spelling_decodes d vw hp, rfl⟩

theorem ItemSp.no_amp {item k d : Str} (h : ItemSp item k d) : '&' ∉ item := by
  obtain ⟨k0, vw, rfl, hk, _, _, hamp⟩ := h.ex
  simp only [List.mem_append, List.mem_cons, not_or]
  exact ⟨validKey_no_sep hk (by decide), by decide, hamp⟩

end Purl
