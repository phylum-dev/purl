/-
  Percent-spellings of a component (`PctSp`), and that each decodes to the component.
-/
import PurlModel.Lemmas.Bytes
namespace Purl

/-- the bytes of a char written as `%XY%XY…`, each hex digit in either case -/
inductive BytesSp : Bytes → Str → Prop where
  | nil : BytesSp [] []
  | cons (b : UInt8) (h l : Char) (bs : Bytes) (w : Str) :
      hexValChar h = some (b / 16) → hexValChar l = some (b % 16) → BytesSp bs w →
      BytesSp (b :: bs) ('%' :: h :: l :: w)

/-- a component and one of its spellings: every char raw (never '%'), or all its UTF-8 bytes escaped -/
inductive PctSp : Str → Str → Prop where
  | nil : PctSp [] []
  | raw (c : Char) (cs ws : Str) : c ≠ '%' → PctSp cs ws → PctSp (c :: cs) (c :: ws)
  | pct (c : Char) (w : Str) (cs ws : Str) : BytesSp (String.utf8EncodeChar c) w → PctSp cs ws → PctSp (c :: cs) (w ++ ws)

theorem pctDecode_raw_bytes (bs rest : Bytes) (h : ∀ b ∈ bs, b ≠ 0x25) : pctDecode (bs ++ rest) = bs ++ pctDecode rest := by
  induction bs with
  | nil => rfl
  | cons b more ih =>
    simp only [List.cons_append]
    rw [pctDecode_cons_ne _ (h b (by simp)), ih (fun x hx => h x (by simp [hx]))]

theorem raw_char_bytes_ne_pct {c : Char} (hc : c ≠ '%') : ∀ b ∈ String.utf8EncodeChar c, b ≠ 0x25 := by
  rintro b hb rfl
  obtain ⟨hlt, e⟩ := utf8EncodeChar_ascii_byte hb (by decide)
  apply hc
  apply Char.toNat_inj.1
  rw [← toNat_toUInt8_of_lt (by omega : c.toNat < 256), ← e]
  rfl

theorem pctDecode_raw_char {c : Char} (hc : c ≠ '%') (ws : Str) :
    pctDecode (utf8 (c :: ws)) = String.utf8EncodeChar c ++ pctDecode (utf8 ws) := by
  rw [utf8_cons, pctDecode_raw_bytes _ _ (raw_char_bytes_ne_pct hc)]

theorem utf8_pct (ws : Str) : utf8 ('%' :: ws) = 0x25 :: utf8 ws := by
  rw [utf8_cons, utf8EncodeChar_ascii (by decide : ('%' : Char).toNat < 128)]
  rfl

theorem pctDecode_escape {h l : Char} {hv lv : UInt8} (hh : hexValChar h = some hv) (hl : hexValChar l = some lv)
    (rest : Bytes) : pctDecode (utf8 ['%', h, l] ++ rest) = (hv * 16 + lv) :: pctDecode rest := by
  obtain ⟨ha, hv'⟩ := hexValChar_ascii hh
  obtain ⟨la, lv'⟩ := hexValChar_ascii hl
  simp only [utf8, List.flatMap_cons, List.flatMap_nil, utf8EncodeChar_ascii ha, utf8EncodeChar_ascii la,
    utf8EncodeChar_ascii (c := '%') (by decide), List.cons_append, List.nil_append]
  exact pctDecode_pct rest hv' lv'

theorem bytesSp_decode (bs : Bytes) (w : Str) (h : BytesSp bs w) (rest : Bytes) :
    pctDecode (utf8 w ++ rest) = bs ++ pctDecode rest := by
  induction h with
  | nil => rfl
  | cons b hc lc bs' w' hh hl _ ih =>
    rw [show '%' :: hc :: lc :: w' = ['%', hc, lc] ++ w' from rfl, utf8_append, List.append_assoc,
      pctDecode_escape hh hl, UInt8.div_mod_16, ih]
    rfl

/-- the cases `raw` and `pct` of `pctSpx_decodes` (Lemmas/PctComplete), proved on their own: they need nothing
about a '%' that starts no escape, and the lemmas about the encoder (Lemmas/Encode) use this one -/
theorem pct_spelling_decodes (s w : Str) (h : PctSp s w) : decode w = .ok s := by
  apply decode_of_bytes
  induction h with
  | nil => rfl
  | raw c cs ws hc _ ih => rw [pctDecode_raw_char hc, ih, utf8_cons]
  | pct c w' cs ws hb _ ih => rw [utf8_append, bytesSp_decode _ _ hb, ih, utf8_cons]

theorem PctSp.unique {s t w : Str} (h : PctSp s w) (ht : decode w = .ok t) : s = t :=
  Except.ok.inj ((pct_spelling_decodes s w h).symm.trans ht)

theorem pctSp_ne_nil {s w : Str} (h : PctSp s w) (hs : s ≠ []) : w ≠ [] := by
  rintro rfl
  exact hs (h.unique decode_nil)

theorem bytesSp_chars {bs : Bytes} {w : Str} (h : BytesSp bs w) :
    ∀ x ∈ w, x = '%' ∨ ∃ v, hexValChar x = some v := by
  induction h with
  | nil => intro x hx; simp at hx
  | cons b hc lc bs' w' hh hl _ ih =>
    intro x hx
    simp only [List.mem_cons] at hx
    rcases hx with rfl | rfl | rfl | hx
    · exact .inl rfl
    · exact .inr ⟨_, hh⟩
    · exact .inr ⟨_, hl⟩
    · exact ih x hx

theorem pctSp_not_mem {s w : Str} (h : PctSp s w) {x : Char} (hx : x ≠ '%') (hh : hexValChar x = none)
    (hs : x ∉ s) : x ∉ w := by
  induction h with
  | nil => simp
  | raw c cs ws _ _ ih =>
    simp only [List.mem_cons, not_or] at hs ⊢
    exact ⟨hs.1, ih hs.2⟩
  | pct c w' cs ws hb _ ih =>
    simp only [List.mem_cons, not_or] at hs
    simp only [List.mem_append, not_or]
    refine ⟨?_, ih hs.2⟩
    intro hm
    rcases bytesSp_chars hb x hm with e | ⟨v, hv⟩
    · exact hx e
    · rw [hh] at hv; cases hv

end Purl
