/-
  serde_json's string layer (PurlModel/JsonText.lean): what `to_string` writes for a string value, `from_str`
  reads back as that string — for every string.
-/
import PurlModel.JsonText
namespace Purl

theorem hexDigitVal_lower : ∀ k : Nat, k < 16 → hexDigitVal (hexLowerDigit k.toUInt8) = some k := by
  decide +kernel

theorem hex4Val_hex4c (n : Nat) (hn : n < 65536) (tail : List Char) :
    hex4Val (hex4c n ++ tail) = some (n, tail) := by
  have m (k : Nat) : k % 16 < 16 := Nat.mod_lt _ (by decide)
  simp only [hex4c, List.cons_append, List.nil_append, hex4Val, hexDigitVal_lower _ (m _)]
  -- the four base-16 digits of `n`, put together again; over variables the arithmetic is linear, while `omega`
  -- with the quotients and remainders in front of it costs four times as much
  have horner {n q1 q2 q3 a0 a1 a2 : Nat} (h1 : 16 * q1 + a0 = n) (h2 : 16 * q2 + a1 = q1) (h3 : 16 * q3 + a2 = q2) :
      q3 * 4096 + a2 * 256 + a1 * 16 + a0 = n := by
    subst h3 h2 h1
    simp +arith
  have h2 := Nat.div_add_mod (n / 16) 16
  have h3 := Nat.div_add_mod (n / 256) 16
  rw [Nat.div_div_eq_div_mul] at h2 h3
  rw [Nat.mod_eq_of_lt (Nat.div_lt_of_lt_mul hn : n / 4096 < 16), horner (Nat.div_add_mod n 16) h2 h3]

theorem Char.eq_ofNat {c : Char} {n : Nat} (h : c.toNat = n) : c = Char.ofNat n := by
  rw [← h, Char.ofNat_toNat]

theorem jsonEscChar_cases (c : Char) :
    c ∈ ['"', '\\', Char.ofNat 8, Char.ofNat 12, '\n', '\r', '\t'] ∨
    (c.toNat < 32 ∧ jsonEscChar c = '\\' :: 'u' :: hex4c c.toNat) ∨
    (c ≠ '"' ∧ c ≠ '\\' ∧ ¬ c.toNat < 32 ∧ jsonEscChar c = [c]) := by
  by_cases hm : c ∈ ['"', '\\', Char.ofNat 8, Char.ofNat 12, '\n', '\r', '\t']
  · exact .inl hm
  simp only [List.mem_cons, List.not_mem_nil, or_false, not_or] at hm
  obtain ⟨e1, e2, h3, h4, h5, h6, h7⟩ := hm
  have h3' : c.toNat ≠ 8 := fun h => h3 (Char.eq_ofNat h)
  have h4' : c.toNat ≠ 12 := fun h => h4 (Char.eq_ofNat h)
  have e : jsonEscChar c = if c.toNat < 32 then '\\' :: 'u' :: hex4c c.toNat else [c] := by
    simp only [jsonEscChar, beq_iff_eq, e1, e2, h3', h4', h5, h6, h7, if_false]
  by_cases h : c.toNat < 32
  · exact .inr (.inl ⟨h, by rw [e, if_pos h]⟩)
  · exact .inr (.inr ⟨e1, e2, h, by rw [e, if_neg h]⟩)

theorem json_step_plain (c : Char) (e1 : c ≠ '"') (e2 : c ≠ '\\') (h8 : ¬ c.toNat < 32) (fuel : Nat) (tail acc : List Char) :
    jsonStringBodyF (fuel + 1) (c :: tail) acc = jsonStringBodyF fuel tail (c :: acc) := by
  conv => lhs; unfold jsonStringBodyF
  -- the arms of the match on the text: empty, a quote, a backslash, any other char
  split
  · rename_i heq; cases heq
  · rename_i heq; cases heq; exact absurd rfl e1
  · rename_i heq; cases heq; exact absurd rfl e2
  · rename_i heq; cases heq; exact if_neg h8

theorem json_step (c : Char) (fuel : Nat) (tail acc : List Char) :
    jsonStringBodyF (fuel + 1) (jsonEscChar c ++ tail) acc = jsonStringBodyF fuel tail (c :: acc) := by
  rcases jsonEscChar_cases c with h | ⟨h, e⟩ | ⟨e1, e2, h, e⟩
  · simp only [List.mem_cons, List.not_mem_nil, or_false] at h
    rcases h with rfl | rfl | rfl | rfl | rfl | rfl | rfl <;> rfl
  · have h1 : ¬ (0xD800 ≤ c.toNat ∧ c.toNat < 0xDC00) := by omega
    have h2 : ¬ (0xDC00 ≤ c.toNat ∧ c.toNat < 0xE000) := by omega
    rw [e, List.cons_append, List.cons_append, jsonStringBodyF]
    simp only [hex4Val_hex4c _ (Nat.lt_trans h (by decide)), h1, h2, if_false, Char.ofNat_toNat]
  · rw [e]
    exact json_step_plain c e1 e2 h fuel tail acc

theorem jsonEscChar_length_pos (c : Char) : 1 ≤ (jsonEscChar c).length := by
  have short : ∀ c ∈ ['"', '\\', Char.ofNat 8, Char.ofNat 12, '\n', '\r', '\t'], 1 ≤ (jsonEscChar c).length := by
    decide +kernel
  rcases jsonEscChar_cases c with h | ⟨_, e⟩ | ⟨_, _, _, e⟩
  · exact short c h
  · rw [e]; exact Nat.succ_le_succ (Nat.zero_le _)
  · rw [e]; exact Nat.le_refl _

theorem json_body_roundtrip (s : Str) : ∀ (fuel : Nat) (rest acc : List Char),
    (s.flatMap jsonEscChar).length + 1 ≤ fuel →
    jsonStringBodyF fuel (s.flatMap jsonEscChar ++ '"' :: rest) acc = some (acc.reverse ++ s, rest) := by
  induction s with
  | nil =>
    intro fuel rest acc hf
    cases fuel with
    | zero => exact absurd hf (Nat.not_succ_le_zero _)
    | succ f => rw [List.append_nil]; rfl
  | cons c cs ih =>
    intro fuel rest acc hf
    cases fuel with
    | zero => exact absurd hf (Nat.not_succ_le_zero _)
    | succ f =>
      simp only [List.flatMap_cons, List.append_assoc, List.length_append] at hf ⊢
      -- every char is written with at least one char, so the fuel lasts
      rw [json_step, ih f rest (c :: acc) (by have := jsonEscChar_length_pos c; omega)]
      simp

theorem jsonDoc_jsonQuote (s : Str) : jsonDoc (jsonQuote s) = some (.str s) := by
  have hb : jsonStringBody (s.flatMap jsonEscChar ++ ['"']) [] = some (s, []) :=
    json_body_roundtrip s _ [] [] (by simp)
  simp [jsonDoc, jsonQuote, isJsonWs, hb]

end Purl
