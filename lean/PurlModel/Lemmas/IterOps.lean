/-
  The iterator operation language (`ItOp`, Ops.lean): a double-ended iterator over the pairs of a
  collection, with `next`, `next_back`, `nth`, `nth_back`, `len` called in any order.
-/
import PurlModel.Ops
namespace Purl

theorem itStep_next (rem : List (Str × Str)) : itStep rem .next = itStep rem (.nth 0) := by
  cases rem <;> rfl

theorem itStep_nextBack (rem : List (Str × Str)) : itStep rem .nextBack = itStep rem (.nthBack 0) := by
  simp only [itStep, List.getLast?_eq_getElem?, List.dropLast_eq_take, Nat.sub_zero]
  cases rem with
  | nil => rfl
  | cons x xs => simp

theorem itStep_cases (rem : List (Str × Str)) {P : ItOut × List (Str × Str) → Prop}
    (front : ∀ n, P (.item rem[n]?, rem.drop (n + 1)))
    (back : ∀ n, n < rem.length → P (.item rem[rem.length - 1 - n]?, rem.take (rem.length - 1 - n)))
    (beyond : P (.item none, [])) (len : P (.len rem.length, rem)) (op : ItOp) : P (itStep rem op) := by
  have nthBack : ∀ n, P (itStep rem (.nthBack n)) := fun n => by
    by_cases hn : n < rem.length
    · rw [show itStep rem (.nthBack n) = _ from if_pos hn]
      exact back n hn
    · rw [show itStep rem (.nthBack n) = _ from if_neg hn]
      exact beyond
  cases op with
  | next => exact itStep_next rem ▸ front 0
  | nextBack => exact itStep_nextBack rem ▸ nthBack 0
  | nth n => exact front n
  | nthBack n => exact nthBack n
  | len => exact len

/-- every call leaves a contiguous part of what was there, and what it yields is one of the pairs it dropped -/
theorem itStep_window (rem : List (Str × Str)) (op : ItOp) :
    ∃ a b, rem = a ++ (itStep rem op).2 ++ b ∧ ∀ x, (itStep rem op).1 = .item (some x) → x ∈ a ++ b := by
  refine itStep_cases rem (P := fun r => ∃ a b, rem = a ++ r.2 ++ b ∧ ∀ x, r.1 = .item (some x) → x ∈ a ++ b)
    (fun n => ?_) (fun n hn => ?_) ?_ ?_ op
  · refine ⟨rem.take (n + 1), [], ?_, fun x hx => ?_⟩
    · rw [List.append_nil]
      exact (List.take_append_drop ..).symm
    · rw [List.append_nil]
      exact List.mem_of_getElem? ((List.getElem?_take_of_lt (Nat.lt_succ_self n)).trans (ItOut.item.inj hx))
  · refine ⟨[], rem.drop (rem.length - 1 - n), (List.take_append_drop ..).symm, fun x hx => ?_⟩
    exact List.mem_of_getElem? ((List.getElem?_drop (j := 0)).trans (ItOut.item.inj hx))
  · exact ⟨rem, [], by simp, fun x hx => nomatch hx⟩
  · exact ⟨[], [], by simp, fun x hx => nomatch hx⟩

theorem itStep_len (rem : List (Str × Str)) : itStep rem .len = (.len rem.length, rem) := rfl

/-- the items a script yields, in the order yielded -/
def yielded : List ItOut → List (Str × Str)
  | [] => []
  | .item (some x) :: os => x :: yielded os
  | _ :: os => yielded os

/-- no pair is yielded twice, none is invented: what a script of calls yields, with what is still in the
iterator afterwards, is a sub-multiset of the pairs it started with -/
theorem itRun_count_le (rem : List (Str × Str)) (ops : List ItOp) (z : Str × Str) :
    (yielded (itRun rem ops).1 ++ (itRun rem ops).2).count z ≤ rem.count z := by
  induction ops generalizing rem with
  | nil => exact Nat.le_refl _
  | cons op ops ih =>
    obtain ⟨a, b, hw, hm⟩ := itStep_window rem op
    have hc : rem.count z = (a ++ b).count z + (itStep rem op).2.count z := by
      conv => lhs; rw [hw]
      rw [List.count_append, List.count_append, List.count_append, Nat.add_right_comm]
    have ih' := ih (itStep rem op).2
    have rest := Nat.le_trans ih' (hc ▸ Nat.le_add_left _ _)
    simp only [itRun]
    cases ho : (itStep rem op).1 with
    | len n => exact rest
    | item o =>
      cases o with
      | none => exact rest
      | some x =>
        have hx : [x].count z ≤ (a ++ b).count z := (List.singleton_sublist.2 (hm x ho)).count_le z
        rw [List.count_cons, List.count_nil, Nat.zero_add] at hx
        show (x :: _).count z ≤ _
        rw [List.count_cons, hc, Nat.add_comm]
        exact Nat.add_le_add hx ih'

end Purl
