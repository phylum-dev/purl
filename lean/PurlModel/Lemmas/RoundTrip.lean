/-
  The parser on what `Display` prints.  `formatParts ty p` is one particular assembled spelling
  (`printed ty p`), so the parser's result on it is read off `parseWith_of_pieces`: every field comes
  back, namespace and subpath without their insignificant segments.  On parser-normalised values
  that is the round trip.
-/
import PurlModel.Lemmas.PiecesComplete
import PurlModel.Lemmas.NormPaths
import PurlModel.Lemmas.RoundTripQuals
import PurlModel.Lemmas.Rebuild
namespace Purl
open Generated

/-- the facts about the escape tables (regenerated from format.rs) that the round trip rests on: were
one false, a printed component could contain a raw separator and the parser would cut elsewhere -/
theorem sep_facts :
    namespaceEsc ('#' : Char).toNat.toUInt8 = true ∧ namespaceEsc ('?' : Char).toNat.toUInt8 = true ∧ namespaceEsc ('@' : Char).toNat.toUInt8 = true ∧
    nameEsc ('#' : Char).toNat.toUInt8 = true ∧ nameEsc ('?' : Char).toNat.toUInt8 = true ∧ nameEsc ('@' : Char).toNat.toUInt8 = true ∧
    nameEsc ('/' : Char).toNat.toUInt8 = true ∧
    versionEsc ('#' : Char).toNat.toUInt8 = true ∧ versionEsc ('?' : Char).toNat.toUInt8 = true ∧ versionEsc ('@' : Char).toNat.toUInt8 = true ∧
    subpathEsc ('#' : Char).toNat.toUInt8 = true :=
  ⟨namespaceEsc_reserved.hash, namespaceEsc_reserved.qmark, namespaceEsc_reserved.at_,
    nameEsc_reserved.hash, nameEsc_reserved.qmark, nameEsc_reserved.at_, nameEsc_slash,
    versionEsc_reserved.hash, versionEsc_reserved.qmark, versionEsc_reserved.at_, subpathEsc_reserved.hash⟩

/-- the spelling `Display` writes -/
def printed (ty : Str) (p : Parts) : Pieces where
  lead := 0
  ty := ty
  ns := if p.ns.isEmpty then none else some (pctEncode namespaceEsc p.ns)
  name := pctEncode nameEsc p.name
  ver := if p.version.isEmpty then none else some (pctEncode versionEsc p.version)
  quals := if p.quals.isEmpty then none else some (joinWith '&' (p.quals.map itemStr))
  sub := if p.subpath.isEmpty then none else some (pctEncode subpathEsc p.subpath)

theorem printed_assemble (ty : Str) (p : Parts) (hk : ∀ kv ∈ p.quals, isValidKey kv.1 = true) :
    (printed ty p).assemble = formatParts ty p := by
  have hq : (printed ty p).qPart = formatQuals p.quals '?' := by
    unfold Pieces.qPart printed
    cases hql : p.quals with
    | nil => rfl
    | cons kv rest => exact (formatQuals_cons_eq_join kv rest (hql ▸ hk) '?').symm
  have hns : (printed ty p).nsPart = if p.ns.isEmpty then [] else pctEncode namespaceEsc p.ns ++ ['/'] := by
    unfold Pieces.nsPart printed
    cases p.ns.isEmpty <;> rfl
  have hver : (printed ty p).verPart = if p.version.isEmpty then [] else '@' :: pctEncode versionEsc p.version := by
    unfold Pieces.verPart printed
    cases p.version.isEmpty <;> rfl
  have hsub : (printed ty p).subPart = if p.subpath.isEmpty then [] else '#' :: pctEncode subpathEsc p.subpath := by
    unfold Pieces.subPart printed
    cases p.subpath.isEmpty <;> rfl
  unfold Pieces.assemble formatParts Pieces.path
  rw [hq, hns, hver, hsub]
  simp only [printed, schemePrefix, List.replicate_zero, List.nil_append, List.append_assoc]

/-- '#', '?', '@' are escaped in every component and absent from type and keys, so in the printed
string they occur only as the separators `Display` wrote; '/' is escaped in the name -/
theorem printed_ok (ty : Str) (p : Parts) (hty : isValidType ty = true)
    (hk : ∀ kv ∈ p.quals, isValidKey kv.1 = true) : (printed ty p).Ok := by
  have enc : ∀ {set : UInt8 → Bool} {s : Str}, Reserved set → ∀ c ∈ ['#', '?', '@'],
      ∀ x ∈ (if s.isEmpty then none else some (pctEncode set s)), c ∉ x := by
    intro set s hr c hc x hx
    split at hx <;> cases hx
    exact hr.not_mem hc s
  refine .of_pieces hty (not_mem_pctEncode (by decide) (by decide) nameEsc_slash) ?_ (enc versionEsc_reserved) ?_
    (enc subpathEsc_reserved)
  -- the namespace part ends in a '/'
  · intro c hc
    have : c ≠ '/' := by revert c; decide +kernel
    rw [List.mem_append, not_or]
    refine ⟨?_, nameEsc_reserved.not_mem hc _⟩
    unfold Pieces.nsPart printed
    cases p.ns.isEmpty
    · simpa [this] using namespaceEsc_reserved.not_mem hc p.ns
    · simp
  · intro c hc x hx
    change x ∈ (if p.quals.isEmpty then none else some (joinWith '&' (p.quals.map itemStr))) at hx
    split at hx <;> cases hx
    exact sep_not_mem_items p.quals hk hc

theorem decode_optEnc {set : UInt8 → Bool} {dec : Str → Except PErr Str} {norm : Str → Str}
    (hd : ∀ s, dec (pctEncode set s) = .ok (norm s)) (h0 : norm [] = []) (s : Str) :
    (match (if s.isEmpty then none else some (pctEncode set s) : Option Str) with
      | some x => dec x
      | none => .ok []) = .ok (norm s) := by
  cases h : s.isEmpty
  · exact hd s
  · rw [List.isEmpty_iff.1 h, h0]; rfl

theorem printed_subR (ty : Str) (p : Parts) : (printed ty p).subR = .ok (normSub p.subpath) :=
  decode_optEnc decodeSubpath_encoded_any rfl p.subpath

theorem printed_nsR (ty : Str) (p : Parts) : (printed ty p).nsR = .ok (normNs p.ns) :=
  decode_optEnc decodeNamespace_encoded_any rfl p.ns

theorem printed_verR (ty : Str) (p : Parts) : (printed ty p).verR = .ok p.version :=
  decode_optEnc versionEsc_reserved.decode rfl p.version

variable (U : UnicodeOps) [LawfulUnicode U]

theorem printed_qualsR (ty : Str) (p : Parts) (hq : QInv p.quals) (hv : ∀ kv ∈ p.quals, kv.2 ≠ []) :
    (printed ty p).qualsR U = .ok p.quals := by
  unfold Pieces.qualsR printed
  cases hql : p.quals with
  | nil => rfl
  | cons kv rest =>
    have := decodeQualifiers_printed U p.quals hq hv (by rw [hql]; simp)
    rw [hql] at this
    exact this

/-- the fields a built value comes back with: namespace / subpath normalised, everything else as is -/
def normSegs (p : Parts) : Parts := { p with ns := normNs p.ns, subpath := normSub p.subpath }

/-- the parser on a printed string, any shape: `build()` gets the fields that were printed, namespace
and subpath normalised -/
theorem parseWith_format_any {τ ε σ : Type} (S : Shape τ ε σ) (ty : Str) (p : Parts)
    (hty : isValidType ty = true) (hq : QInv p.quals) (hv : ∀ kv ∈ p.quals, kv.2 ≠ []) (st : σ) :
    parseWith U S (formatParts ty p) st =
      (match S.fromStr ty st with
       | (.error e, st') => (fail e, st')
       | (.ok t, st') => buildWith U S ⟨t, normSegs p⟩ st') := by
  have hk : ∀ kv ∈ p.quals, isValidKey kv.1 = true := fun kv h => (hq.2 kv h).1
  rw [← printed_assemble ty p hk]
  exact parseWith_of_pieces U S (printed ty p) (printed_ok ty p hty hk).sep hty (printed_subR ty p)
    (printed_qualsR U ty p hq hv) (printed_verR ty p) (printed_nsR ty p)
    (nameEsc_reserved.decode _) st

theorem normSegs_of_wf {p : Parts} (hns : NsWF p.ns) (hsub : SubWF p.subpath) : normSegs p = p := by
  unfold normSegs
  rw [normNs_of_NsWF hns, normSub_of_SubWF hsub]

theorem parseS_format_any (p : GPurl Str) (hb : Built U p) (hty : isValidType p.ty = true)
    (hlow : asciiLower p.ty = p.ty) :
    parseS U (formatParts p.ty p.parts) = .ok ⟨p.ty, normSegs p.parts⟩ := by
  unfold parseS
  rw [parseWith_format_any U stringShape p.ty p.parts hty hb.quals_inv hb.vals_ne]
  simp only [stringShape, buildWith, strPreviewMut, hty, Bool.not_true, Bool.false_eq_true, if_false, hlow]
  exact postFinish_built U id (p := ⟨p.ty, normSegs p.parts⟩) (hb.of_eq rfl rfl)

/-- the parser inverts `Display` for a shape whose conversion inverts its type string -/
theorem parseWith_format {τ ε σ : Type} (S : Shape τ ε σ) (p : GPurl τ) (hb : Built U p)
    (hty : isValidType (S.typeStr p.ty) = true) (hns : NsWF p.parts.ns) (hsub : SubWF p.parts.subpath)
    (hconv : ∀ st, (S.fromStr (S.typeStr p.ty) st).1 = .ok p.ty) (hf : HookFixed S p) (st : σ) :
    (parseWith U S (formatParts (S.typeStr p.ty) p.parts) st).1 = .ok p := by
  rw [parseWith_format_any U S _ p.parts hty hb.quals_inv hb.vals_ne, normSegs_of_wf hns hsub]
  have hc := hconv st
  cases hx : S.fromStr (S.typeStr p.ty) st with
  | mk r st1 =>
    rw [hx] at hc
    cases hc
    exact rebuild_id U S p hb hf st1

theorem parseS_format (p : GPurl Str) (wf : WF p) (hc : CksumFix U p.parts.quals) :
    parseS U (formatParts p.ty p.parts) = .ok p :=
  parseWith_format U stringShape p ⟨wf.name_ne, wf.quals_inv, wf.vals_ne, hc⟩ wf.type_valid wf.ns_wf
    wf.sub_wf (fun _ => rfl) (hookFixed_string.2 ⟨wf.type_valid, wf.type_lower⟩) ()

theorem optEnc_inj {set : UInt8 → Bool} (hr : Reserved set) {s s' : Str}
    (e : (if s.isEmpty then none else some (pctEncode set s)) = (if s'.isEmpty then none else some (pctEncode set s'))) :
    s = s' := by
  have := decode_optEnc hr.decode rfl s
  rw [e, decode_optEnc hr.decode rfl s'] at this
  exact (Except.ok.inj this).symm

/-- `Display` is injective: the printed string determines its pieces (`Pieces.assemble_inj`), and each
piece its field, since decoding inverts encoding.  `W` is there only to run the qualifier decoder in
the proof: any lawful tables will do. -/
theorem formatParts_inj (W : UnicodeOps) [LawfulUnicode W] (ty ty' : Str) (p p' : Parts) (hty : isValidType ty = true) (hty' : isValidType ty' = true)
    (hq : QInv p.quals) (hq' : QInv p'.quals) (hv : ∀ kv ∈ p.quals, kv.2 ≠ []) (hv' : ∀ kv ∈ p'.quals, kv.2 ≠ [])
    (h : formatParts ty p = formatParts ty' p') : ty = ty' ∧ p = p' := by
  have hk : ∀ kv ∈ p.quals, isValidKey kv.1 = true := fun kv h => (hq.2 kv h).1
  have hk' : ∀ kv ∈ p'.quals, isValidKey kv.1 = true := fun kv h => (hq'.2 kv h).1
  rw [← printed_assemble ty p hk, ← printed_assemble ty' p' hk'] at h
  have e := Pieces.assemble_inj (printed_ok ty p hty hk).sep (printed_ok ty' p' hty' hk').sep rfl h
  have eq := printed_qualsR W ty p hq hv
  rw [e, printed_qualsR W ty' p' hq' hv'] at eq
  have ename := congrArg (fun w => decode w.name) e
  simp only [printed, nameEsc_reserved.decode] at ename
  refine ⟨congrArg Pieces.ty e, ?_⟩
  have e1 := optEnc_inj namespaceEsc_reserved (congrArg Pieces.ns e)
  have e2 := optEnc_inj versionEsc_reserved (congrArg Pieces.ver e)
  have e3 := optEnc_inj subpathEsc_reserved (congrArg Pieces.sub e)
  cases p; cases p'
  simp only at e1 e2 e3 eq ename
  cases eq; cases ename
  subst e1 e2 e3
  rfl

end Purl
