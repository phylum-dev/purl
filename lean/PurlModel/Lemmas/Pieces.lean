/-
  The parser on any string assembled from component spellings, defective pieces included: which raw
  separators are harmless, and that the result is determined by the pieces in the code's order
  (subpath, qualifiers, type, version, namespace, name, `build()`).
-/
import PurlModel.Lemmas.ParseWF
namespace Purl
open Generated

/-- the component spellings a PURL string is assembled from -/
structure Pieces where
  lead : Nat                 -- extra '/' after `pkg:`
  ty : Str                   -- type as written (any letter case)
  ns : Option Str            -- namespace part as written (without the '/' that ends it)
  name : Str
  ver : Option Str
  quals : Option Str         -- everything between '?' and '#'
  sub : Option Str

def Pieces.nsPart (w : Pieces) : Str := match w.ns with | some x => x ++ ['/'] | none => []
def Pieces.verPart (w : Pieces) : Str := match w.ver with | some x => '@' :: x | none => []
def Pieces.qPart (w : Pieces) : Str := match w.quals with | some x => '?' :: x | none => []
def Pieces.subPart (w : Pieces) : Str := match w.sub with | some x => '#' :: x | none => []
def Pieces.path (w : Pieces) : Str := w.nsPart ++ (w.name ++ w.verPart)

def Pieces.assemble (w : Pieces) : Str :=
  schemePrefix ++ (List.replicate w.lead '/' ++ (w.ty ++ '/' :: (w.path ++ (w.qPart ++ w.subPart))))

/-- the grammar's side conditions: a raw '#', '?', '@' is harmless to the left of the occurrence that
right-to-left splitting designates as the separator -/
structure Pieces.Ok (w : Pieces) : Prop where
  ty_valid : isValidType w.ty = true
  hash : match w.sub with
    | some x => '#' ∉ x
    | none => '#' ∉ w.path ++ w.qPart
  qmark : match w.quals with
    | some x => '?' ∉ x
    | none => '?' ∉ w.path
  at_ : match w.ver with
    | some x => '@' ∉ x
    | none => '@' ∉ w.nsPart ++ w.name
  slash : '/' ∉ w.name

/-- as `Pieces.Ok`, but the type only has to be non-empty and free of the four characters that would
move a split point -/
structure Pieces.Sep (w : Pieces) : Prop where
  ty_ne : w.ty ≠ []
  ty_sep : '?' ∉ w.ty ∧ '#' ∉ w.ty ∧ '@' ∉ w.ty ∧ '/' ∉ w.ty
  hash : match w.sub with
    | some x => '#' ∉ x
    | none => '#' ∉ w.path ++ w.qPart
  qmark : match w.quals with
    | some x => '?' ∉ x
    | none => '?' ∉ w.path
  at_ : match w.ver with
    | some x => '@' ∉ x
    | none => '@' ∉ w.nsPart ++ w.name
  slash : '/' ∉ w.name

theorem Pieces.Ok.sep {w : Pieces} (ok : w.Ok) : w.Sep :=
  have h := @validType_no_sep _ ok.ty_valid
  ⟨isValidType_ne_nil ok.ty_valid, ⟨h (by decide), h (by decide), h (by decide), h (by decide)⟩, ok.hash, ok.qmark, ok.at_, ok.slash⟩

theorem Pieces.Ok.of_pieces {w : Pieces} (hty : isValidType w.ty = true) (hslash : '/' ∉ w.name)
    (hfront : ∀ c ∈ ['#', '?', '@'], c ∉ w.nsPart ++ w.name)
    (hver : ∀ c ∈ ['#', '?', '@'], ∀ x ∈ w.ver, c ∉ x) (hquals : ∀ c ∈ ['#', '?', '@'], ∀ x ∈ w.quals, c ∉ x)
    (hsub : ∀ c ∈ ['#', '?', '@'], ∀ x ∈ w.sub, c ∉ x) : w.Ok := by
  have hpath : ∀ c ∈ ['#', '?'], c ∉ w.path := by
    intro c hc
    have h : c ≠ '@' ∧ c ∈ ['#', '?', '@'] := by revert c; decide +kernel
    unfold Pieces.path Pieces.verPart
    rw [← List.append_assoc, List.mem_append, not_or]
    refine ⟨hfront c h.2, ?_⟩
    cases hv : w.ver with
    | none => exact List.not_mem_nil
    | some x => simpa [h.1] using hver c h.2 x hv
  refine ⟨hty, ?_, ?_, ?_, hslash⟩
  · cases hs : w.sub with
    | some x => exact hsub '#' (by decide) x hs
    | none =>
      show '#' ∉ w.path ++ w.qPart
      rw [List.mem_append, not_or]
      refine ⟨hpath '#' (by decide), ?_⟩
      unfold Pieces.qPart
      cases hx : w.quals with
      | none => exact List.not_mem_nil
      | some x => simpa using hquals '#' (by decide) x hx
  · cases hs : w.quals with
    | some x => exact hquals '?' (by decide) x hs
    | none => exact hpath '?' (by decide)
  · cases hs : w.ver with
    | some x => exact hver '@' (by decide) x hs
    | none => exact hfront '@' (by decide)

/-- what the pieces decode to -/
def Pieces.subR (w : Pieces) : Except PErr Str := match w.sub with | some x => decodeSubpath x | none => .ok []
def Pieces.qualsR (U : UnicodeOps) (w : Pieces) : Res PErr Quals :=
  match w.quals with | some x => decodeQualifiers U x [] | none => .ok []
def Pieces.verR (w : Pieces) : Except PErr Str := match w.ver with | some x => decode x | none => .ok []
def Pieces.nsR (w : Pieces) : Except PErr Str := match w.ns with | some x => decodeNamespace x | none => .ok []

/-! ### the stage results in the form the property statements use -/

theorem Pieces.subR_eq_ok {w : Pieces} {sub : Str} :
    w.subR = .ok sub ↔ match w.sub with | some x => decodeSubpath x = .ok sub | none => sub = [] := by
  unfold Pieces.subR
  cases w.sub <;> simp [eq_comm]

theorem Pieces.qualsR_eq_ok {U : UnicodeOps} {w : Pieces} {q : Quals} :
    w.qualsR U = .ok q ↔ match w.quals with | some x => decodeQualifiers U x [] = .ok q | none => q = [] := by
  unfold Pieces.qualsR
  cases w.quals <;> simp [eq_comm]

theorem Pieces.verR_eq_ok {w : Pieces} {ver : Str} :
    w.verR = .ok ver ↔ match w.ver with | some x => decode x = .ok ver | none => ver = [] := by
  unfold Pieces.verR
  cases w.ver <;> simp [eq_comm]

theorem Pieces.nsR_eq_ok {w : Pieces} {ns : Str} :
    w.nsR = .ok ns ↔ match w.ns with | some x => decodeNamespace x = .ok ns | none => ns = [] := by
  unfold Pieces.nsR
  cases w.ns <;> simp [eq_comm]

theorem Pieces.Sep.ty_slash {w : Pieces} (sep : w.Sep) : '/' ∉ w.ty := sep.ty_sep.2.2.2

theorem Pieces.Sep.hash_front {w : Pieces} (sep : w.Sep) :
    match w.sub with
    | some x => '#' ∉ x
    | none => '#' ∉ w.ty ++ '/' :: (w.path ++ w.qPart) := by
  have h := sep.hash
  cases hs : w.sub with
  | some x => rw [hs] at h; exact h
  | none => rw [hs] at h; simpa [sep.ty_sep.2.1] using h

theorem Pieces.Sep.qmark_front {w : Pieces} (sep : w.Sep) :
    match w.quals with
    | some x => '?' ∉ x
    | none => '?' ∉ w.ty ++ '/' :: w.path := by
  have h := sep.qmark
  cases hs : w.quals with
  | some x => rw [hs] at h; exact h
  | none => rw [hs] at h; simpa [sep.ty_sep.1] using h

variable (U : UnicodeOps) [LawfulUnicode U]

theorem rsplitOnce_opt {c : Char} {a : Str} {o : Option Str} (h : match o with | some x => c ∉ x | none => c ∉ a) :
    rsplitOnce c (a ++ match (generalizing := false) o with | some x => c :: x | none => []) = o.map fun x => (a, x) := by
  cases o with
  | none => rw [List.append_nil, rsplitOnce_none_of_not_mem h]; rfl
  | some x => exact rsplitOnce_append a h

theorem pieces_splitSubpath (w : Pieces) (sep : w.Sep) :
    splitSubpath (w.ty ++ '/' :: (w.path ++ (w.qPart ++ w.subPart))) =
      (match w.subR with | .error e => .error e | .ok d => .ok (w.ty ++ '/' :: (w.path ++ w.qPart), d)) := by
  have e : w.ty ++ '/' :: (w.path ++ (w.qPart ++ w.subPart)) = (w.ty ++ '/' :: (w.path ++ w.qPart)) ++ w.subPart := by simp
  unfold splitSubpath Pieces.subR
  rw [e, Pieces.subPart, rsplitOnce_opt sep.hash_front]
  cases w.sub with
  | none => simp only [Option.map_none, List.append_nil]
  | some x => rfl

omit [LawfulUnicode U] in
theorem pieces_splitQuals (w : Pieces) (sep : w.Sep) :
    splitQuals U (w.ty ++ '/' :: (w.path ++ w.qPart)) =
      (match w.qualsR U with | .error f => .error f | .ok q => .ok (w.ty ++ '/' :: w.path, q)) := by
  have e : w.ty ++ '/' :: (w.path ++ w.qPart) = (w.ty ++ '/' :: w.path) ++ w.qPart := by simp
  unfold splitQuals Pieces.qualsR
  rw [e, Pieces.qPart, rsplitOnce_opt sep.qmark_front]
  cases w.quals with
  | none => simp only [Option.map_none, List.append_nil]
  | some x => rfl

theorem pieces_splitVersion (w : Pieces) (sep : w.Sep) :
    splitVersion w.path =
      (match w.verR with | .error e => .error e | .ok ver => .ok (w.nsPart ++ w.name, ver)) := by
  unfold splitVersion Pieces.verR
  rw [Pieces.path, ← List.append_assoc, Pieces.verPart, rsplitOnce_opt sep.at_]
  cases w.ver with
  | none => simp only [Option.map_none, List.append_nil]
  | some x => rfl

theorem pieces_splitNamespace (w : Pieces) (sep : w.Sep) :
    splitNamespace (w.nsPart ++ w.name) =
      (match w.nsR with | .error e => .error e | .ok ns => .ok (w.name, ns)) := by
  unfold splitNamespace Pieces.nsPart Pieces.nsR
  cases w.ns with
  | none => rw [List.nil_append, rsplitOnce_none_of_not_mem sep.slash]
  | some x =>
    rw [List.append_assoc, List.singleton_append, rsplitOnce_append _ sep.slash]
    rfl

omit [LawfulUnicode U] in
theorem pieces_parsePre_eq (w : Pieces) (sep : w.Sep) :
    parsePre U w.assemble =
      (match w.subR with
       | .error e => fail e
       | .ok sub =>
         match w.qualsR U with
         | .error f => .error f
         | .ok q =>
           if !isValidType w.ty then fail .invalidPackageType
           else .ok (w.ty, w.path, { quals := q, subpath := sub })) := by
  have htrim : trimStart '/' (List.replicate w.lead '/' ++ (w.ty ++ '/' :: (w.path ++ (w.qPart ++ w.subPart))))
      = w.ty ++ '/' :: (w.path ++ (w.qPart ++ w.subPart)) := by
    rw [trimStart_replicate_append]
    apply trimStart_eq_self_of_not_head
    cases hty : w.ty with
    | nil => exact absurd hty sep.ty_ne
    | cons x xs =>
      intro e
      cases (e : some x = some '/')
      exact sep.ty_slash (hty ▸ List.mem_cons_self)
  unfold Pieces.assemble parsePre
  rw [stripPrefix_append]
  dsimp only
  rw [htrim, pieces_splitSubpath w sep]
  cases w.subR with
  | error e => rfl
  | ok sub =>
    dsimp only
    rw [pieces_splitQuals U w sep]
    cases w.qualsR U with
    | error f => rfl
    | ok q =>
      have hne : (w.ty ++ '/' :: w.path).isEmpty = false := by
        cases w.ty <;> rfl
      simp only [hne, Bool.false_eq_true, if_false]
      rw [splitOnce_append _ sep.ty_slash]

theorem pieces_parsePost_eq (w : Pieces) (sep : w.Sep) (parts0 : Parts) :
    parsePost w.path parts0 =
      (match w.verR with
       | .error e => .error e
       | .ok ver =>
         match w.nsR with
         | .error e => .error e
         | .ok ns =>
           match decode w.name with
           | .error e => .error e
           | .ok n => .ok { parts0 with ns := ns, name := n, version := ver }) := by
  unfold parsePost
  rw [pieces_splitVersion w sep]
  cases w.verR with
  | error e => rfl
  | ok ver =>
    dsimp only
    rw [pieces_splitNamespace w sep]
    cases w.nsR <;> rfl

-- the statements below carry the instance `LawfulUnicode U`, which their proofs do not need
set_option linter.unusedSectionVars false

/-- the parser on any assembled spelling: the stages in the code's order, the first failing one decides -/
theorem parseS_pieces_eq (w : Pieces) (sep : w.Sep) :
    parseS U w.assemble =
      (match w.subR with
       | .error e => fail e
       | .ok sub =>
         match w.qualsR U with
         | .error f => .error f
         | .ok q =>
           if !isValidType w.ty then fail .invalidPackageType
           else
             match w.verR with
             | .error e => fail e
             | .ok ver =>
               match w.nsR with
               | .error e => fail e
               | .ok ns =>
                 match decode w.name with
                 | .error e => fail e
                 | .ok n => buildS U ⟨w.ty, { ns := ns, name := n, version := ver, quals := q, subpath := sub }⟩) := by
  unfold parseS parseWith
  rw [pieces_parsePre_eq U w sep]
  cases w.subR with
  | error e => rfl
  | ok sub =>
    cases w.qualsR U with
    | error f => cases f <;> rfl
    | ok q =>
      cases isValidType w.ty with
      | false => rfl
      | true =>
        simp only [Bool.not_true, Bool.false_eq_true, if_false, stringShape]
        rw [pieces_parsePost_eq w sep]
        cases w.verR with
        | error e => rfl
        | ok ver =>
          cases w.nsR with
          | error e => rfl
          | ok ns => cases decode w.name <;> rfl

/-- the typed parser: generic errors wrapped in `PackageError::Parse`, the conversion of the type
between the type check and the version -/
theorem parseP_pieces_eq (w : Pieces) (sep : w.Sep) :
    parseP U w.assemble =
      (match w.subR with
       | .error e => fail (.parse e)
       | .ok sub =>
         match w.qualsR U with
         | .error f => .error (f.map .parse)
         | .ok q =>
           if !isValidType w.ty then fail (.parse .invalidPackageType)
           else
             match PkgType.ofStr U w.ty with
             | none => fail .unsupportedType
             | some t =>
               match w.verR with
               | .error e => fail (.parse e)
               | .ok ver =>
                 match w.nsR with
                 | .error e => fail (.parse e)
                 | .ok ns =>
                   match decode w.name with
                   | .error e => fail (.parse e)
                   | .ok n => buildP U ⟨t, { ns := ns, name := n, version := ver, quals := q, subpath := sub }⟩) := by
  unfold parseP parseWith
  rw [pieces_parsePre_eq U w sep]
  cases w.subR with
  | error e => rfl
  | ok sub =>
    cases w.qualsR U with
    | error f => rfl
    | ok q =>
      cases isValidType w.ty with
      | false => rfl
      | true =>
        simp only [Bool.not_true, Bool.false_eq_true, if_false, pkgShape]
        cases PkgType.ofStr U w.ty with
        | none => rfl
        | some t =>
          dsimp only
          rw [pieces_parsePost_eq w sep]
          cases w.verR with
          | error e => rfl
          | ok ver =>
            cases w.nsR with
            | error e => rfl
            | ok ns => cases decode w.name <;> rfl

/-- for pieces that decode, the result is `build()` of the decoded components, with the type as written -/
theorem parse_of_pieces (w : Pieces) (ok : w.Ok) (ns name ver sub : Str) (q : Quals)
    (hsub : match w.sub with | some x => decodeSubpath x = .ok sub | none => sub = [])
    (hq : match w.quals with | some x => decodeQualifiers U x [] = .ok q | none => q = [])
    (hns : match w.ns with | some x => decodeNamespace x = .ok ns | none => ns = [])
    (hname : decode w.name = .ok name)
    (hver : match w.ver with | some x => decode x = .ok ver | none => ver = []) :
    parseS U w.assemble = buildS U ⟨w.ty, { ns := ns, name := name, version := ver, quals := q, subpath := sub }⟩ := by
  rw [parseS_pieces_eq U w ok.sep, Pieces.subR_eq_ok.2 hsub, Pieces.qualsR_eq_ok.2 hq, Pieces.verR_eq_ok.2 hver,
    Pieces.nsR_eq_ok.2 hns, hname]
  simp [ok.ty_valid]

theorem parseP_of_pieces (w : Pieces) (ok : w.Ok) (t : PkgType) (ht : PkgType.ofStr U w.ty = some t)
    (ns name ver sub : Str) (q : Quals)
    (hsub : match w.sub with | some x => decodeSubpath x = .ok sub | none => sub = [])
    (hq : match w.quals with | some x => decodeQualifiers U x [] = .ok q | none => q = [])
    (hns : match w.ns with | some x => decodeNamespace x = .ok ns | none => ns = [])
    (hname : decode w.name = .ok name)
    (hver : match w.ver with | some x => decode x = .ok ver | none => ver = []) :
    parseP U w.assemble = buildP U ⟨t, { ns := ns, name := name, version := ver, quals := q, subpath := sub }⟩ := by
  rw [parseP_pieces_eq U w ok.sep, Pieces.subR_eq_ok.2 hsub, Pieces.qualsR_eq_ok.2 hq, Pieces.verR_eq_ok.2 hver,
    Pieces.nsR_eq_ok.2 hns, hname]
  simp [ok.ty_valid, ht]

omit [LawfulUnicode U] in
theorem parseWith_of_pieces {τ ε σ : Type} (S : Shape τ ε σ) (w : Pieces) (sep : w.Sep)
    (hty : isValidType w.ty = true) {sub ver ns n : Str} {q : Quals}
    (hsub : w.subR = .ok sub) (hq : w.qualsR U = .ok q) (hver : w.verR = .ok ver)
    (hns : w.nsR = .ok ns) (hname : decode w.name = .ok n) (st : σ) :
    parseWith U S w.assemble st =
      (match S.fromStr w.ty st with
       | (.error e, st') => (fail e, st')
       | (.ok t, st') =>
         buildWith U S ⟨t, { ns := ns, name := n, version := ver, quals := q, subpath := sub }⟩ st') := by
  unfold parseWith
  rw [pieces_parsePre_eq U w sep, hsub, hq]
  simp only [hty, Bool.not_true, Bool.false_eq_true, if_false]
  rw [pieces_parsePost_eq w sep, hver, hns, hname]
  rfl

end Purl
