/-
  Lemmas about the parser's component decoders (namespace, subpath, qualifiers).
-/
import PurlModel.Purl
import PurlModel.Lemmas.Bytes
import PurlModel.Lemmas.Split
import PurlModel.Lemmas.QualsInv
namespace Purl
open Generated

/-- how both loops append a decoded segment -/
def pushSeg (acc d : Str) : Str := (if acc.isEmpty then acc else acc ++ ['/']) ++ d

theorem foldl_pushSeg_nil (segs : List Str) (h : ∀ d ∈ segs, d ≠ []) :
    segs.foldl pushSeg [] = joinWith '/' segs := by
  have key : ∀ (l : List Str) (acc : Str), acc ≠ [] → l.foldl pushSeg acc = acc ++ l.flatMap fun d => '/' :: d := by
    intro l
    induction l with
    | nil => simp
    | cons d rest ih =>
      intro acc hacc
      have : pushSeg acc d = acc ++ '/' :: d := by
        cases acc with
        | nil => exact absurd rfl hacc
        | cons _ _ => simp [pushSeg]
      rw [List.foldl_cons, this, ih _ (by simp)]
      simp
  cases segs with
  | nil => rfl
  | cons d rest =>
    have : pushSeg [] d = d := by simp [pushSeg]
    rw [List.foldl_cons, this, key rest d (h d (by simp)), joinWith_cons_flatMap]

/-- the decoded non-empty pieces, or the error of the first bad one -/
def nsDecoded : List Str → Except PErr (List Str)
  | [] => .ok []
  | seg :: rest =>
    if seg.isEmpty then nsDecoded rest
    else
      match decode seg with
      | .error e => .error e
      | .ok d =>
        if d.contains '/' then .error .invalidEscape
        else
          match nsDecoded rest with
          | .error e => .error e
          | .ok ds => .ok (d :: ds)

theorem namespaceSegs_eq (pieces : List Str) (acc : Str) :
    namespaceSegs pieces acc = (match nsDecoded pieces with
      | .ok ds => .ok (ds.foldl pushSeg acc)
      | .error e => .error e) := by
  fun_induction namespaceSegs pieces acc with
  | case5 seg rest acc hs d hd hc ih =>
    simp only [nsDecoded, hs, hd, hc, ih, Bool.false_eq_true, if_false]
    cases nsDecoded rest <;> rfl
  | _ => simp only [nsDecoded, *, Bool.false_eq_true, if_false, if_true, List.foldl_nil]

theorem nsDecoded_props {pieces ds : List Str} (h : nsDecoded pieces = .ok ds) :
    ∀ d ∈ ds, d ≠ [] ∧ '/' ∉ d := by
  fun_induction nsDecoded pieces generalizing ds with
  | case1 => cases h; simp
  | case2 seg rest hskip ih => exact ih h
  | case6 seg rest hs d hd hc ds' hr ih =>
    cases h
    intro x hx
    rcases List.mem_cons.1 hx with rfl | hx
    · exact ⟨decode_ne_nil (by simpa using hs) hd, by simpa using hc⟩
    · exact ih hr x hx
  | _ => cases h

/-- `decode_namespace` decodes the non-empty pieces between raw '/' and joins them by '/' -/
theorem decodeNamespace_eq (s : Str) :
    decodeNamespace s = (nsDecoded (splitOn '/' (trimMatches '/' s))).map (joinWith '/') := by
  unfold decodeNamespace
  rw [namespaceSegs_eq]
  cases hd : nsDecoded (splitOn '/' (trimMatches '/' s)) with
  | error e => rfl
  | ok ds => exact congrArg Except.ok (foldl_pushSeg_nil ds fun d hm => (nsDecoded_props hd d hm).1)

theorem decodeNamespace_spec {s ns : Str} (h : decodeNamespace s = .ok ns) :
    ∃ ds, nsDecoded (splitOn '/' (trimMatches '/' s)) = .ok ds ∧ ns = joinWith '/' ds ∧
      ∀ d ∈ ds, d ≠ [] ∧ '/' ∉ d := by
  rw [decodeNamespace_eq] at h
  cases hd : nsDecoded (splitOn '/' (trimMatches '/' s)) with
  | error e => rw [hd] at h; cases h
  | ok ds =>
    rw [hd] at h
    cases h
    exact ⟨ds, rfl, rfl, nsDecoded_props hd⟩

def subDecoded : List Str → Except PErr (List Str)
  | [] => .ok []
  | seg :: rest =>
    if isDotSeg seg then subDecoded rest
    else
      match decode seg with
      | .error e => .error e
      | .ok d =>
        if badSubSeg d then .error .invalidEscape
        else
          match subDecoded rest with
          | .error e => .error e
          | .ok ds => .ok (d :: ds)

theorem subpathSegs_eq (pieces : List Str) (acc : Str) :
    subpathSegs pieces acc = (match subDecoded pieces with
      | .ok ds => .ok (ds.foldl pushSeg acc)
      | .error e => .error e) := by
  fun_induction subpathSegs pieces acc with
  | case5 seg rest acc hs d hd hc ih =>
    simp only [subDecoded, hs, hd, hc, ih, Bool.false_eq_true, if_false]
    cases subDecoded rest <;> rfl
  | _ => simp only [subDecoded, *, Bool.false_eq_true, if_false, if_true, List.foldl_nil]

theorem subDecoded_props {pieces ds : List Str} (h : subDecoded pieces = .ok ds) :
    ∀ d ∈ ds, d ≠ [] ∧ '/' ∉ d ∧ d ≠ ['.'] ∧ d ≠ ['.', '.'] := by
  fun_induction subDecoded pieces generalizing ds with
  | case1 => cases h; simp
  | case2 seg rest hskip ih => exact ih h
  | case6 seg rest hs d hd hc ds' hr ih =>
    cases h
    intro x hx
    rcases List.mem_cons.1 hx with rfl | hx
    · simp only [badSubSeg, Bool.or_eq_true, decide_eq_true_eq, not_or] at hc
      have hne : seg ≠ [] := by rintro rfl; exact hs rfl
      exact ⟨decode_ne_nil hne hd, by simpa using hc.1.1, hc.1.2, hc.2⟩
    · exact ih hr x hx
  | _ => cases h

/-- `decode_subpath` decodes the pieces other than raw "", ".", ".." and joins them by '/' -/
theorem decodeSubpath_eq (s : Str) :
    decodeSubpath s = (subDecoded (splitOn '/' (trimMatches '/' s))).map (joinWith '/') := by
  unfold decodeSubpath
  rw [subpathSegs_eq]
  cases hd : subDecoded (splitOn '/' (trimMatches '/' s)) with
  | error e => rfl
  | ok ds => exact congrArg Except.ok (foldl_pushSeg_nil ds fun d hm => (subDecoded_props hd d hm).1)

theorem decodeSubpath_spec {s sub : Str} (h : decodeSubpath s = .ok sub) :
    ∃ ds, subDecoded (splitOn '/' (trimMatches '/' s)) = .ok ds ∧ sub = joinWith '/' ds ∧
      ∀ d ∈ ds, d ≠ [] ∧ '/' ∉ d ∧ d ≠ ['.'] ∧ d ≠ ['.', '.'] := by
  rw [decodeSubpath_eq] at h
  cases hd : subDecoded (splitOn '/' (trimMatches '/' s)) with
  | error e => rw [hd] at h; cases h
  | ok ds =>
    rw [hd] at h
    cases h
    exact ⟨ds, rfl, rfl, subDecoded_props hd⟩

theorem decodeQualifiers_joinWith (U : UnicodeOps) {items : List Str} (hne : items ≠ [])
    (hamp : ∀ p ∈ items, '&' ∉ p) (q : Quals) :
    decodeQualifiers U (joinWith '&' items) q = qualItems U items q := by
  unfold decodeQualifiers
  rw [splitOn_joinWith hne hamp]

theorem qualItems_append (U : UnicodeOps) (pre rest : List Str) (q : Quals) :
    qualItems U (pre ++ rest) q = (match qualItems U pre q with
      | .ok q1 => qualItems U rest q1
      | .error f => .error f) := by
  fun_induction qualItems U pre q <;> simp [qualItems, fail, *]

variable (U : UnicodeOps) [LawfulUnicode U]

/-- one round of the qualifier loop in terms of the key-order operations -/
theorem qualItems_cons (item : Str) (rest : List Str) (q : Quals) :
    qualItems U (item :: rest) q =
      match splitOnce '=' item with
      | none => fail .invalidQualifier
      | some (k, v) =>
        if isValidKey k && !foundAt (asciiLower k) q then
          match decode v with
          | .error e => fail e
          | .ok d => qualItems U rest (if d.isEmpty then q else upsert (asciiLower k) d q)
        else fail .invalidQualifier := by
  rw [qualItems]
  cases splitOnce '=' item with
  | none => rfl
  | some kv =>
    obtain ⟨k, v⟩ := kv
    dsimp only
    cases hk : isValidKey k with
    | false => rw [entry_invalid U hk]; rfl
    | true =>
      obtain ⟨mk, hmk, he⟩ := entry_valid U hk q
      rw [he]
      cases hf : foundAt (asciiLower k) q with
      | true => rfl
      | false =>
        cases decode v with
        | error e => rfl
        | ok d => cases d <;> simp [vacantInsert_eq hmk hf]

theorem qualItems_cons_ok {item : Str} {rest : List Str} {q q' : Quals} (h : qualItems U (item :: rest) q = .ok q') :
    ∃ k v d, splitOnce '=' item = some (k, v) ∧ isValidKey k = true ∧ foundAt (asciiLower k) q = false ∧
      decode v = .ok d ∧ qualItems U rest (if d.isEmpty then q else upsert (asciiLower k) d q) = .ok q' := by
  rw [qualItems_cons] at h
  split at h
  · cases h
  rename_i k v hsp
  split at h
  · rename_i hk
    split at h
    · cases h
    rename_i d hd
    have hk' := Bool.and_eq_true_iff.1 hk
    exact ⟨k, v, d, hsp, hk'.1, by simpa using hk'.2, hd, h⟩
  · cases h

theorem qualItems_ok {items : List Str} {q q' : Quals} (h : qualItems U items q = .ok q') (hq : QInv q)
    (hv : ∀ kv ∈ q, kv.2 ≠ []) : QInv q' ∧ ∀ kv ∈ q', kv.2 ≠ [] := by
  induction items generalizing q with
  | nil => cases h; exact ⟨hq, hv⟩
  | cons item rest ih =>
    obtain ⟨k, v, d, _, hk, _, _, h⟩ := qualItems_cons_ok U h
    split at h
    · exact ih h hq hv
    · rename_i hd
      apply ih h (QInv_upsert d hq (keyOk_asciiLower hk))
      intro kv hm
      rcases mem_upsert hm with rfl | m
      · simpa using hd
      · exact hv kv m

theorem qualItems_no_panic (items : List Str) (q : Quals) : (qualItems U items q).isPanic = false := by
  induction items generalizing q with
  | nil => rfl
  | cons item rest ih =>
    rw [qualItems_cons]
    split
    · rfl
    split
    · split
      · rfl
      · exact ih _
    · rfl

end Purl
