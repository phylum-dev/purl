/-
  What the parser and `build()` hand out, for every shape whose hook meets two conditions (`HookOk`):
  the generic invariants (`Built`), a parser-normalised namespace and subpath, and a value the hook
  leaves alone (`HookFixed`), so that rebuilding it is the identity.  The built-in shapes are instances.
-/
import PurlModel.Lemmas.ParseWF
import PurlModel.Lemmas.NameRules
namespace Purl
open Generated

variable (U : UnicodeOps) [LawfulUnicode U]

/-- the hook leaves this value alone -/
def HookFixed {τ ε σ : Type} (S : Shape τ ε σ) (p : GPurl τ) : Prop :=
  ∀ st, (S.finish p.ty p.parts st).1 = .ok (p.ty, p.parts)

theorem rebuild_id {τ ε σ : Type} (S : Shape τ ε σ) (p : GPurl τ) (hb : Built U p) (hf : HookFixed S p) (st : σ) :
    (buildWith U S p st).1 = .ok p := by
  rw [buildWith_fst, hf st]
  exact postFinish_built U S.lift hb

/-- what the generic results need from a hook: it leaves qualifiers, namespace and subpath alone, and
its output type accepts, unchanged, any parts with the namespace and name it produced -/
structure HookOk {τ ε σ : Type} (S : Shape τ ε σ) : Prop where
  keeps : ∀ {t t' : τ} {a a' : Parts} {st : σ}, (S.finish t a st).1 = .ok (t', a') →
    a'.quals = a.quals ∧ a'.ns = a.ns ∧ a'.subpath = a.subpath
  fixed : ∀ {t t' : τ} {a a' : Parts} {st : σ}, (S.finish t a st).1 = .ok (t', a') →
    ∀ (b : Parts) (st' : σ), b.ns = a'.ns → b.name = a'.name → (S.finish t' b st').1 = .ok (t', b)

theorem hook_postFinish_props {τ ε σ : Type} (S : Shape τ ε σ) (hS : HookOk S) {t t' : τ} {a a' : Parts} {st : σ}
    {p : GPurl τ} (hq : QInv a.quals) (hfin : (S.finish t a st).1 = .ok (t', a'))
    (h : postFinish U S.lift t' a' = .ok p) :
    Built U p ∧ HookFixed S p ∧ p.parts.ns = a.ns ∧ p.parts.subpath = a.subpath := by
  obtain ⟨kq, kns, ksub⟩ := hS.keeps hfin
  refine ⟨built_of_postFinish U S.lift (kq ▸ hq) h, ?_⟩
  obtain ⟨_, q, _, rfl⟩ := postFinish_eq_ok.1 h
  exact ⟨fun st' => hS.fixed hfin _ st' rfl rfl, kns, ksub⟩

theorem buildWith_props {τ ε σ : Type} (S : Shape τ ε σ) (hS : HookOk S) {b p : GPurl τ} {st : σ}
    (hq : QInv b.parts.quals) (h : (buildWith U S b st).1 = .ok p) : Built U p ∧ HookFixed S p := by
  rw [buildWith_fst] at h
  split at h
  · cases h
  · rename_i t' a' hfin
    obtain ⟨h1, h2, _⟩ := hook_postFinish_props U S hS hq hfin h
    exact ⟨h1, h2⟩

theorem parseWith_props {τ ε σ : Type} (S : Shape τ ε σ) (hS : HookOk S) {s : Str} {st : σ} {p : GPurl τ}
    (h : (parseWith U S s st).1 = .ok p) :
    Built U p ∧ NsWF p.parts.ns ∧ SubWF p.parts.subpath ∧ HookFixed S p := by
  obtain ⟨a, rest, parts0, t, parts1, t', parts2, h1, h2, h3, h4, h5⟩ := parseWith_ok_decompose U S h
  obtain ⟨_, hq0, _, hsub0⟩ := parsePre_ok U h1
  obtain ⟨eq, esub, hns1⟩ := parsePost_ok h3
  obtain ⟨hb, hf, ens, esub'⟩ := hook_postFinish_props U S hS (eq ▸ hq0) h4 h5
  exact ⟨hb, ens ▸ hns1, esub' ▸ esub ▸ hsub0, hf⟩

theorem strPreviewMut_idem {s t : Str} (h : strPreviewMut s = .ok t) : strPreviewMut t = .ok t := by
  obtain ⟨hv, rfl⟩ := strPreviewMut_ok h
  unfold strPreviewMut
  simp [isValidType_asciiLower hv, asciiLower_idem]

theorem hookFixed_string {p : GPurl Str} :
    HookFixed stringShape p ↔ isValidType p.ty = true ∧ asciiLower p.ty = p.ty := by
  constructor
  · intro h
    have := h ()
    dsimp only [stringShape] at this
    split at this <;> cases this
    rename_i hsp
    obtain ⟨hv, e⟩ := strPreviewMut_ok hsp
    exact ⟨hv, e.symm⟩
  · rintro ⟨hv, hl⟩ st
    simp only [stringShape, strPreviewMut, hv, Bool.not_true, Bool.false_eq_true, if_false, hl]

theorem stringShape_hookOk : HookOk stringShape where
  keeps := by
    intro t t' a a' st h
    dsimp only [stringShape] at h
    split at h <;> cases h
    exact ⟨rfl, rfl, rfl⟩
  fixed := by
    intro t t' a a' st h b st' _ _
    dsimp only [stringShape] at h ⊢
    split at h <;> cases h
    rename_i hsp _ _
    rw [strPreviewMut_idem hsp]

theorem cowShape_hookOk : HookOk cowShape where
  keeps := by
    intro t t' a a' st h
    obtain ⟨owned, v⟩ := t
    rw [cowFinish_eq] at h
    split at h <;> cases h
    exact ⟨rfl, rfl, rfl⟩
  fixed := by
    intro t t' a a' st h
    obtain ⟨owned, v⟩ := t
    rw [cowFinish_eq] at h
    split at h <;> cases h
    rename_i hv
    have hv' : isValidType v = true := by simpa using hv
    intro b st' _ _
    rw [cowFinish_eq, isValidType_asciiLower hv', asciiLower_idem]
    cases hl : v.all isAsciiLower with
    | false => simp
    | true =>
      rw [asciiLower_of_all_lower hl, hl]
      cases owned <;> rfl

omit [LawfulUnicode U] in
theorem pkgFinish_keeps {t : PkgType} {a a' : Parts} (h : pkgFinish U t a = .ok a') :
    a'.ns = a.ns ∧ a'.version = a.version ∧ a'.quals = a.quals ∧ a'.subpath = a.subpath := by
  obtain ⟨rfl, _⟩ := pkgFinish_ok U h
  exact ⟨rfl, rfl, rfl, rfl⟩

/-- `HookOk.fixed` for PackageType: the name rule is idempotent -/
theorem pkgFinish_fixed_of {t : PkgType} {a a' b : Parts} (h : pkgFinish U t a = .ok a')
    (h1 : b.ns = a'.ns) (h2 : b.name = a'.name) : pkgFinish U t b = .ok b := by
  obtain ⟨rfl, hm⟩ := pkgFinish_ok U h
  simp only at h1 h2
  rw [pkgFinish_eq, h1, if_neg hm, h2, fixName_idem, ← h2, ← h1]

theorem pkgShape_hookOk : HookOk (pkgShape U) where
  keeps := by
    intro t t' a a' st h
    dsimp only [pkgShape] at h
    split at h <;> cases h
    rename_i hpf
    obtain ⟨rfl, _⟩ := pkgFinish_ok U hpf
    exact ⟨rfl, rfl, rfl⟩
  fixed := by
    intro t t' a a' st h b st' h1 h2
    dsimp only [pkgShape] at h ⊢
    split at h <;> cases h
    rename_i hpf
    rw [pkgFinish_fixed_of U hpf h1 h2]

theorem parseP_props {s : Str} {p : GPurl PkgType} (h : parseP U s = .ok p) :
    Built U p ∧ NsWF p.parts.ns ∧ SubWF p.parts.subpath ∧ HookFixed (pkgShape U) p :=
  parseWith_props U _ (pkgShape_hookOk U) h

theorem buildP_props {b p : GPurl PkgType} (hq : QInv b.parts.quals) (h : buildP U b = .ok p) :
    Built U p ∧ HookFixed (pkgShape U) p :=
  buildWith_props U _ (pkgShape_hookOk U) hq h

theorem buildS_props {b p : GPurl Str} (hq : QInv b.parts.quals) (h : buildS U b = .ok p) :
    Built U p ∧ HookFixed stringShape p ∧ isValidType p.ty = true ∧ asciiLower p.ty = p.ty := by
  obtain ⟨hb, hf⟩ := buildWith_props U _ stringShape_hookOk hq h
  exact ⟨hb, hf, hookFixed_string.1 hf⟩

theorem parseS_built {s : Str} {p : GPurl Str} (h : parseS U s = .ok p) : Built U p :=
  (parseWith_props U _ stringShape_hookOk h).1

theorem parseS_wf {s : Str} {p : GPurl Str} (h : parseS U s = .ok p) : WF p := by
  obtain ⟨hb, hns, hsub, hf⟩ := parseWith_props U _ stringShape_hookOk h
  obtain ⟨hv, hl⟩ := hookFixed_string.1 hf
  exact ⟨hv, hl, hb.name_ne, hb.quals_inv, hb.vals_ne, hns, hsub⟩

end Purl
