/-
  Lemmas about `build()` (postFinish / buildWith).
-/
import PurlModel.Purl
import PurlModel.Lemmas.QualsInv
import PurlModel.Lemmas.Checksum
namespace Purl
open Generated

theorem isPanic_error_eq_false {ε α : Type} {f : Fault ε} :
    Res.isPanic (.error f : Res ε α) = false ↔ ∃ e, f = .err e := by
  cases f with
  | err e => exact ⟨fun _ => ⟨e, rfl⟩, fun _ => rfl⟩
  | panic s => exact ⟨fun h => (nomatch h), fun ⟨_, h⟩ => (nomatch h)⟩

theorem checksumKey_ok : KeyOk checksumKey := by
  constructor <;> decide +kernel

theorem checksumKey_valid : isValidKey checksumKey = true := checksumKey_ok.1

def nonEmptyQuals (q : Quals) : Quals := q.retain fun _ v => !v.isEmpty

theorem QInv_nonEmptyQuals {q : Quals} (hq : QInv q) : QInv (nonEmptyQuals q) :=
  QInv_filter _ hq

theorem nonEmptyQuals_values {q : Quals} : ∀ kv ∈ nonEmptyQuals q, kv.2 ≠ [] := by
  intro kv h
  unfold nonEmptyQuals Quals.retain at h
  simp only [List.mem_filter, Bool.not_eq_true', List.isEmpty_eq_false_iff] at h
  exact h.2

/-- what `build()` does to the qualifiers: empty values dropped, a checksum rewritten in its canonical text -/
def fixQuals (U : UnicodeOps) (q0 : Quals) : Res PErr Quals :=
  match Quals.get U (nonEmptyQuals q0) checksumKey with
  | .error f => .error f
  | .ok none => .ok (nonEmptyQuals q0)
  | .ok (some text) =>
    match Cksum.ofText U text with
    | .error e => fail e
    | .ok ck =>
      match ck.toText with
      | .error f => .error f
      | .ok t =>
        match Quals.insert U (nonEmptyQuals q0) checksumKey t with
        | .error f => .error f
        | .ok (_, q') => .ok q'

theorem postFinish_eq {τ ε : Type} (U : UnicodeOps) (lift : PErr → ε) (ty : τ) (parts : Parts) :
    postFinish U lift ty parts =
      if parts.name.isEmpty then fail (lift (.missingRequiredField .name))
      else match fixQuals U parts.quals with
        | .error f => .error (f.map lift)
        | .ok q => .ok ⟨ty, { parts with quals := q }⟩ := by
  unfold postFinish fixQuals nonEmptyQuals
  split
  · rfl
  · dsimp only
    cases Quals.get U (parts.quals.retain fun _ v => !v.isEmpty) checksumKey with
    | error f => rfl
    | ok o =>
      cases o with
      | none => rfl
      | some text =>
        dsimp only
        cases Cksum.ofText U text with
        | error e => rfl
        | ok ck =>
          dsimp only
          cases ck.toText with
          | error f => rfl
          | ok t =>
            dsimp only
            cases Quals.insert U (parts.quals.retain fun _ v => !v.isEmpty) checksumKey t <;> rfl

theorem postFinish_name_nil {τ ε : Type} (U : UnicodeOps) (lift : PErr → ε) (ty : τ) {parts : Parts}
    (h : parts.name = []) : postFinish U lift ty parts = fail (lift (.missingRequiredField .name)) := by
  rw [postFinish_eq, h]
  rfl

/-- `checksum` is a valid lower-case key, so neither `get` nor `insert` can fail -/
theorem fixQuals_eq (U : UnicodeOps) [LawfulUnicode U] (q : Quals) :
    fixQuals U q =
      match lookupS checksumKey (nonEmptyQuals q) with
      | none => .ok (nonEmptyQuals q)
      | some text =>
        match Cksum.ofText U text with
        | .error e => fail e
        | .ok ck =>
          match ck.toText with
          | .error f => .error f
          | .ok t => .ok (upsert checksumKey t (nonEmptyQuals q)) := by
  unfold fixQuals
  simp only [get_eq U, insert_valid U checksumKey_valid, checksumKey_valid, checksumKey_ok.2, if_true]
  cases lookupS checksumKey (nonEmptyQuals q) <;> rfl

theorem postFinish_ty {τ τ' ε : Type} (U : UnicodeOps) (lift : PErr → ε) (f : τ → τ') (t : τ) (ps : Parts) :
    postFinish U lift (f t) ps =
      (match postFinish U lift t ps with
       | .ok p => Except.ok ⟨f p.ty, p.parts⟩
       | .error e => .error e) := by
  rw [postFinish_eq, postFinish_eq]
  split
  · rfl
  · split <;> rfl

theorem postFinish_eq_ok {τ ε : Type} {U : UnicodeOps} {lift : PErr → ε} {ty : τ} {parts : Parts} {p : GPurl τ} :
    postFinish U lift ty parts = .ok p ↔
      parts.name ≠ [] ∧ ∃ q, fixQuals U parts.quals = .ok q ∧ p = ⟨ty, { parts with quals := q }⟩ := by
  rw [postFinish_eq]
  cases parts.name with
  | nil => exact ⟨fun h => (nomatch h), fun h => absurd rfl h.1⟩
  | cons c cs =>
    simp only [List.isEmpty_cons, Bool.false_eq_true, if_false, ne_eq, reduceCtorEq, not_false_eq_true, true_and]
    cases fixQuals U parts.quals with
    | error f => exact ⟨fun h => (nomatch h), fun ⟨q, h, _⟩ => (nomatch h)⟩
    | ok q => exact ⟨fun h => ⟨q, rfl, (Except.ok.inj h).symm⟩, fun ⟨q', h, e⟩ => by cases h; rw [e]⟩

theorem buildWith_fst {τ ε σ : Type} (U : UnicodeOps) (S : Shape τ ε σ) (b : GPurl τ) (st : σ) :
    (buildWith U S b st).1 =
      (match (S.finish b.ty b.parts st).1 with
       | .error e => fail e
       | .ok (t, ps) => postFinish U S.lift t ps) := by
  unfold buildWith
  cases S.finish b.ty b.parts st with
  | mk r st' => cases r <;> rfl

theorem buildS_eq (U : UnicodeOps) (b : GPurl Str) :
    buildS U b = if !isValidType b.ty then fail .invalidPackageType else postFinish U id (asciiLower b.ty) b.parts := by
  unfold buildS buildWith
  dsimp only [stringShape, strPreviewMut]
  cases (!isValidType b.ty) <;> rfl

theorem buildS_ok_ty {U : UnicodeOps} {b p : GPurl Str} (h : buildS U b = .ok p) :
    isValidType b.ty = true ∧ p.ty = asciiLower b.ty := by
  rw [buildS_eq] at h
  split at h
  · cases h
  next hv =>
    obtain ⟨_, q, _, rfl⟩ := postFinish_eq_ok.1 h
    exact ⟨by simpa using hv, rfl⟩

theorem buildP_eq (U : UnicodeOps) (b : GPurl PkgType) :
    buildP U b = match pkgFinish U b.ty b.parts with
      | .error e => fail e
      | .ok ps => postFinish U .parse b.ty ps := by
  unfold buildP buildWith
  dsimp only [pkgShape]
  cases pkgFinish U b.ty b.parts <;> rfl

variable {τ ε : Type} (U : UnicodeOps) [LawfulUnicode U] (lift : PErr → ε)

theorem fixQuals_ok {q0 q : Quals} (hq : QInv q0) (h : fixQuals U q0 = .ok q) :
    (lookup (nonEmptyQuals q0) checksumKey = none ∧ q = nonEmptyQuals q0) ∨
    (∃ text ck t, lookup (nonEmptyQuals q0) checksumKey = some text ∧ Cksum.ofText U text = .ok ck ∧
        ck.toText = .ok t ∧ q = upsert checksumKey t (nonEmptyQuals q0)) := by
  rw [fixQuals_eq, lookupS_eq_lookup (QInv_nonEmptyQuals hq).1] at h
  split at h
  · rename_i hl; cases h; exact .inl ⟨hl, rfl⟩
  rename_i text hl
  split at h
  · cases h
  rename_i ck ho
  split at h
  · cases h
  · rename_i t ht; cases h; exact .inr ⟨text, ck, t, hl, ho, ht, rfl⟩

/-- only the serialiser could panic, and it does not (`toText_no_panic`) -/
theorem fixQuals_no_panic (q : Quals) : (fixQuals U q).isPanic = false := by
  rw [fixQuals_eq]
  split
  · rfl
  split
  · rfl
  rename_i ck _
  split
  · rename_i f ht
    obtain ⟨e, rfl⟩ := isPanic_error_eq_false.1 (ht ▸ toText_no_panic ck)
    rfl
  · rfl

theorem postFinish_no_panic (ty : τ) (parts : Parts) : (postFinish U lift ty parts).isPanic = false := by
  rw [postFinish_eq]
  split
  · rfl
  split
  · rename_i f hf
    obtain ⟨e, rfl⟩ := isPanic_error_eq_false.1 (hf ▸ fixQuals_no_panic U parts.quals)
    rfl
  · rfl

theorem buildWith_no_panic {σ : Type} (S : Shape τ ε σ) (b : GPurl τ) (st : σ) :
    (buildWith U S b st).1.isPanic = false := by
  rw [buildWith_fst]
  split
  · rfl
  · exact postFinish_no_panic U S.lift _ _

theorem postFinish_lookup {ty : τ} {parts : Parts} {p : GPurl τ} (hq : QInv parts.quals)
    (h : postFinish U lift ty parts = .ok p) {k : Str} (hk : k ≠ checksumKey) :
    lookup p.parts.quals k = (lookup parts.quals k).filter (fun v => !v.isEmpty) := by
  have hne : lookup (nonEmptyQuals parts.quals) k = (lookup parts.quals k).filter (fun v => !v.isEmpty) :=
    lookup_filter hq.1 (fun _ v => !v.isEmpty) k
  obtain ⟨_, q, hf, rfl⟩ := postFinish_eq_ok.1 h
  rcases fixQuals_ok U hq hf with ⟨_, rfl⟩ | ⟨text, ck, tt, _, _, _, rfl⟩
  · exact hne
  · rw [lookup_upsert tt, if_neg hk, hne]

/-- the stored checksum text is a fixed point of parse-then-serialise -/
def CksumFix (U : UnicodeOps) (q : Quals) : Prop :=
  ∀ text, lookup q checksumKey = some text → ∃ ck, Cksum.ofText U text = .ok ck ∧ ck.toText = .ok text

/-- the generic invariants of a handed-out value (every shape) -/
structure Built {τ : Type} (p : GPurl τ) : Prop where
  name_ne : p.parts.name ≠ []
  quals_inv : QInv p.parts.quals
  vals_ne : ∀ kv ∈ p.parts.quals, kv.2 ≠ []
  cks : CksumFix U p.parts.quals

variable {U} in
omit [LawfulUnicode U] in
theorem Built.of_eq {τ' : Type} {p : GPurl τ} {p' : GPurl τ'} (hb : Built U p) (hn : p'.parts.name = p.parts.name)
    (hq : p'.parts.quals = p.parts.quals) : Built U p' :=
  ⟨hn ▸ hb.name_ne, hq ▸ hb.quals_inv, hq ▸ hb.vals_ne, hq ▸ hb.cks⟩

variable {U} in
theorem CksumFix.canon {q : Quals} (h : CksumFix U q) {t : Str} (ht : lookup q checksumKey = some t) :
    CanonChecksum t := by
  obtain ⟨ck, ho, htt⟩ := h t ht
  exact canon_of_ofText_toText U ho htt

/-- every value returned by `build()` (hence by the parser) has them -/
theorem built_of_postFinish {ty : τ} {parts : Parts} {p : GPurl τ}
    (hq : QInv parts.quals) (h : postFinish U lift ty parts = .ok p) : Built U p := by
  obtain ⟨hne, q, hf, rfl⟩ := postFinish_eq_ok.1 h
  have hq' := QInv_nonEmptyQuals hq
  rcases fixQuals_ok U hq hf with ⟨hnone, rfl⟩ | ⟨text, ck, t, _, ho, ht, rfl⟩
  · exact ⟨hne, hq', nonEmptyQuals_values, fun text hl => by rw [hnone] at hl; cases hl⟩
  · refine ⟨hne, QInv_upsert t hq' checksumKey_ok, fun kv hm => ?_, fun text hl => ?_⟩
    · rcases mem_upsert hm with rfl | m
      · exact toText_ne_nil (ofText_ok U ho).1 ht
      · exact nonEmptyQuals_values kv m
    · rw [lookup_upsert t, if_pos rfl] at hl
      cases hl
      exact cksum_fixpoint U ho ht

theorem nonEmptyQuals_eq_self {q : Quals} (hv : ∀ kv ∈ q, kv.2 ≠ []) : nonEmptyQuals q = q := by
  refine List.filter_eq_self.2 fun kv hkv => ?_
  rw [Bool.not_eq_true', List.isEmpty_eq_false_iff]
  exact hv kv hkv

/-- `build()` is the identity on a value that has the invariants -/
theorem postFinish_built {p : GPurl τ} (hb : Built U p) : postFinish U lift p.ty p.parts = .ok p := by
  rw [postFinish_eq, fixQuals_eq, nonEmptyQuals_eq_self hb.vals_ne, lookupS_eq_lookup hb.quals_inv.1,
    if_neg (by simpa using hb.name_ne)]
  cases hl : lookup p.parts.quals checksumKey with
  | none => rfl
  | some text =>
    obtain ⟨ck, h1, h2⟩ := hb.cks text hl
    simp only [h1, h2, upsert_same hb.quals_inv.1 hl]

/-- Cow: a borrowed type string is kept if it is already in lower case, and replaced by an owned
lower-case copy otherwise -/
theorem cowFinish_eq (owned : Bool) (v : Str) (parts : Parts) (st : Unit) :
    (cowShape.finish (owned, v) parts st).1 =
      if !isValidType v then .error .invalidPackageType
      else .ok ((owned || !v.all isAsciiLower, asciiLower v), parts) := by
  cases owned with
  | true =>
    dsimp only [cowShape, strPreviewMut]
    cases isValidType v <;> rfl
  | false =>
    dsimp only [cowShape]
    cases isValidType v with
    | false => rfl
    | true =>
      cases hl : v.all isAsciiLower with
      | false => rfl
      | true => rw [asciiLower_of_all_lower hl]; rfl

end Purl
