/-
  std's `binary_search_by` (PurlModel/BinSearch.lean) meets its contract: on a slice on which the
  comparison is monotone (`Mono`: once it is not `Less` it is `Greater` for everything to the right —
  what strict ascending order gives), the branch-free loop never reads out of bounds, never fails, and
  returns the lower-bound scan (`lbG` / `foundG`; for `Quals`: `lb` / `foundAt`, i.e. `searchFrom`).
-/
import PurlModel.BinSearch
import PurlModel.Lemmas.QualsInv
namespace Purl

section generic
variable {α : Type} (c : α → Ordering)

def lbG : List α → Nat
  | [] => 0
  | a :: rest => if c a = .lt then lbG rest + 1 else 0

def foundG : List α → Bool
  | [] => false
  | a :: rest =>
    match c a with
    | .lt => foundG rest
    | .eq => true
    | .gt => false

def Mono (l : List α) : Prop :=
  ∀ (i j : Nat) (a b : α), i < j → l[i]? = some a → l[j]? = some b → c a ≠ .lt → c b = .gt

def AllLt (l : List α) (k : Nat) : Prop := ∀ (j : Nat) (a : α), j < k → l[j]? = some a → c a = .lt
def AllGt (l : List α) (k : Nat) : Prop := ∀ (j : Nat) (a : α), k ≤ j → l[j]? = some a → c a = .gt

theorem Mono.tail {a : α} {l : List α} (h : Mono c (a :: l)) : Mono c l :=
  fun i j x y hij hx hy => h (i + 1) (j + 1) x y (Nat.succ_lt_succ hij) hx hy

theorem lbG_foundG_of_split (l : List α) (i : Nat) (hi : i ≤ l.length) (hlt : AllLt c l i)
    (hge : ∀ a, l[i]? = some a → c a ≠ .lt) :
    lbG c l = i ∧ foundG c l = (match l[i]? with | some a => c a == .eq | none => false) := by
  induction l generalizing i with
  | nil =>
    obtain rfl : i = 0 := Nat.le_zero.1 hi
    exact ⟨rfl, rfl⟩
  | cons x rest ih =>
    cases i with
    | zero =>
      have hx : c x ≠ .lt := hge x rfl
      simp only [lbG, foundG, List.getElem?_cons_zero]
      cases hcx : c x with
      | lt => exact absurd hcx hx
      | eq => exact ⟨rfl, rfl⟩
      | gt => exact ⟨rfl, rfl⟩
    | succ k =>
      have hx : c x = .lt := hlt 0 x (Nat.succ_pos k) rfl
      obtain ⟨h1, h2⟩ := ih k (Nat.le_of_succ_le_succ hi) (fun j a hj ha => hlt (j + 1) a (Nat.succ_lt_succ hj) ha) hge
      rw [lbG, foundG, hx, if_pos rfl, h1, h2]
      exact ⟨rfl, rfl⟩

theorem halve_window {n base size : Nat} (h1 : 1 < size) (hb : base + size ≤ n) :
    base + size / 2 < n ∧ size / 2 ≤ size - size / 2 ∧ 1 ≤ size - size / 2 ∧ size - size / 2 < size ∧
      base + size / 2 + (size - size / 2) = base + size := by
  have h0 : 0 < size / 2 := Nat.div_pos h1 (by decide)
  have h2 : size / 2 < size := Nat.div_lt_self (Nat.lt_trans (by decide) h1) (by decide)
  exact ⟨Nat.lt_of_lt_of_le (Nat.add_lt_add_left h2 base) hb,
    Nat.le_sub_of_add_le (Nat.two_mul _ ▸ Nat.mul_div_le size 2), Nat.sub_pos_of_lt h2,
    Nat.sub_lt (Nat.lt_trans (by decide) h1) h0, by rw [Nat.add_assoc, Nat.add_sub_cancel' (Nat.le_of_lt h2)]⟩

/-- the halving loop as a proof rule: the reads stay in range whatever the comparison answers, and a
property of the window `[base, base + size)` that every step keeps holds of the final window `[b, b + 1)` -/
theorem bsLoop_rule (l : List α) (P : Nat → Nat → Prop)
    (step : ∀ size base (h : base + size / 2 < l.length), 1 < size → base + size ≤ l.length → P size base →
      P (size - size / 2) (if c l[base + size / 2] == .gt then base else base + size / 2)) :
    ∀ size base, 1 ≤ size → base + size ≤ l.length → P size base →
      ∃ b, bsLoop (fun a => some (c a)) l size base = .ok b ∧ b < l.length ∧ P 1 b := by
  intro size
  induction size using Nat.strongRecOn with
  | _ size ih =>
    intro base hs hb hP
    rw [bsLoop]
    by_cases h1 : 1 < size
    · obtain ⟨hmid, -, hpos, hlt, hsum⟩ := halve_window h1 hb
      simp only [h1, if_true, List.getElem?_eq_getElem hmid]
      refine ih (size - size / 2) hlt _ hpos ?_ (step size base hmid h1 hb hP)
      split
      · exact Nat.le_trans (Nat.add_le_add_left (Nat.sub_le ..) _) hb
      · exact hsum ▸ hb
    · obtain rfl : size = 1 := Nat.le_antisymm (Nat.not_lt.1 h1) hs
      simp only [h1, if_false]
      exact ⟨base, rfl, hb, hP⟩

/-- on a monotone slice the loop keeps `[base, base+size)` a window around the lower bound -/
theorem bsLoop_spec (l : List α) (hm : Mono c l) (size base : Nat) (hs : 1 ≤ size)
    (hb : base + size ≤ l.length) (hlt : AllLt c l base) (hgt : AllGt c l (base + size)) :
    ∃ b, bsLoop (fun a => some (c a)) l size base = .ok b ∧ b < l.length ∧ AllLt c l b ∧ AllGt c l (b + 1) := by
  refine bsLoop_rule c l (fun size base => AllLt c l base ∧ AllGt c l (base + size)) ?_ size base hs hb ⟨hlt, hgt⟩
  intro size base hmid h1 hb ⟨hlt, hgt⟩
  obtain ⟨-, hhalf, -, -, hsum⟩ := halve_window h1 hb
  have hget : l[base + size / 2]? = some l[base + size / 2] := List.getElem?_eq_getElem hmid
  cases hc : c l[base + size / 2] == .gt with
  | true =>
    -- `Greater` at mid: everything from mid on is above the probe
    have hg : c l[base + size / 2] = .gt := eq_of_beq hc
    rw [if_pos rfl]
    refine ⟨hlt, fun j a hj ha => ?_⟩
    by_cases hjm : j = base + size / 2
    · subst hjm; rw [hget] at ha; cases ha; exact hg
    · have hj : base + size / 2 < j :=
        Nat.lt_of_le_of_ne (Nat.le_trans (Nat.add_le_add_left hhalf base) hj) (Ne.symm hjm)
      exact hm (base + size / 2) j _ a hj hget ha (by rw [hg]; decide)
  | false =>
    -- not `Greater` at mid: everything left of mid is below (else mid would be above)
    have hg : c l[base + size / 2] ≠ .gt := ne_of_beq_false hc
    rw [if_neg Bool.false_ne_true, hsum]
    refine ⟨fun j a hj ha => ?_, hgt⟩
    by_cases hlt' : c a = .lt
    · exact hlt'
    · exact absurd (hm j (base + size / 2) a _ hj ha hget hlt') hg

theorem scan_of_window (l : List α) (b : Nat) (hb : b < l.length) (hlt : AllLt c l b) (hgt : AllGt c l (b + 1)) :
    (foundG c l, lbG c l) = (match c l[b] with
      | .eq => (true, b)
      | .lt => (false, b + 1)
      | .gt => (false, b)) := by
  have hget : l[b]? = some l[b] := List.getElem?_eq_getElem hb
  cases hc : c l[b] with
  | lt =>
    have hlt' : AllLt c l (b + 1) := fun j a hj ha => by
      by_cases hjb : j = b
      · subst hjb; rw [hget] at ha; cases ha; exact hc
      · exact hlt j a (Nat.lt_of_le_of_ne (Nat.le_of_lt_succ hj) hjb) ha
    have hnext : ∀ a, l[b + 1]? = some a → c a = .gt := fun a ha => hgt (b + 1) a (Nat.le_refl _) ha
    obtain ⟨h1, h2⟩ := lbG_foundG_of_split c l (b + 1) hb hlt' fun a ha => by rw [hnext a ha]; decide
    rw [h1, h2]
    cases hn : l[b + 1]? with
    | none => rfl
    | some a => simp only [hnext a hn]; rfl
  | eq | gt =>
    obtain ⟨h1, h2⟩ := lbG_foundG_of_split c l b (Nat.le_of_lt hb) hlt fun a ha => by
      rw [hget] at ha; cases ha; rw [hc]; decide
    rw [h1, h2, hget]
    simp only [hc]
    rfl

theorem binarySearchBy_eq_scan (l : List α) (hm : Mono c l) :
    binarySearchBy (fun a => some (c a)) l = .ok (foundG c l, lbG c l) := by
  unfold binarySearchBy
  by_cases h0 : l.length = 0
  · cases List.eq_nil_of_length_eq_zero h0
    rfl
  · -- the whole slice is a window: nothing is left of it, nothing right of it
    obtain ⟨b, hb, hbl, hlt, hgt⟩ := bsLoop_spec c l hm l.length 0 (Nat.pos_of_ne_zero h0) (Nat.le_of_eq (Nat.zero_add _))
      (fun j a hj => absurd hj (Nat.not_lt_zero j)) fun j a hj ha => by
        rw [List.getElem?_eq_none (Nat.zero_add l.length ▸ hj)] at ha
        cases ha
    simp only [h0, if_false, hb, List.getElem?_eq_getElem hbl, scan_of_window c l b hbl hlt hgt]
    cases c l[b] <;> rfl

end generic

theorem lbG_quals (p : Str) (q : Quals) : lbG (fun kv : Str × Str => cmpStr kv.1 p) q = lb p q := by
  induction q with
  | nil => rfl
  | cons kv rest ih =>
    obtain ⟨k, v⟩ := kv
    simp only [lbG, lb, ih]

theorem foundG_quals (p : Str) (q : Quals) : foundG (fun kv : Str × Str => cmpStr kv.1 p) q = foundAt p q := by
  induction q with
  | nil => rfl
  | cons kv rest ih =>
    obtain ⟨k, v⟩ := kv
    simp only [foundG, foundAt]
    cases cmpStr k p <;> simp [ih]

theorem mono_of_sorted (p : Str) {q : Quals} (hs : Sorted q) : Mono (fun kv : Str × Str => cmpStr kv.1 p) q := by
  intro i j a b hij ha hb hne
  obtain ⟨hi, rfl⟩ := List.getElem?_eq_some_iff.1 ha
  obtain ⟨hj, rfl⟩ := List.getElem?_eq_some_iff.1 hb
  have hab := List.pairwise_iff_getElem.1 hs i j hi hj hij
  -- p ≤ a < b
  refine cmpStr_gt_iff.2 ?_
  rcases cmpStr_total q[i].1 p with h | h | h
  · exact absurd h hne
  · exact h ▸ hab
  · exact cmpStr_lt_trans h hab

/-- On a sorted collection `Qualifiers::search` computed by std's algorithm is the model's `search`. -/
theorem searchBin_eq_search (U : UnicodeOps) {q : Quals} (hs : Sorted q) (mk : MixedKey) :
    q.searchBin U mk = q.search U mk := by
  unfold Quals.searchBin Quals.search
  rw [searchFrom_eq U mk.asRef (U.lowerFull mk.asRef) rfl q 0]
  have := binarySearchBy_eq_scan (fun kv : Str × Str => cmpStr kv.1 (U.lowerFull mk.asRef)) q
    (mono_of_sorted _ hs)
  simp only [keyPartialCmp]
  rw [this, lbG_quals, foundG_quals]
  simp

end Purl
