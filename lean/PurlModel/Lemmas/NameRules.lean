/-
  The package-type name rules: what they compute and that they are idempotent.
-/
import PurlModel.Purl
import PurlModel.Lemmas.Unicode
namespace Purl
open Generated

def isDash (c : Char) : Bool := dashChars.contains c

theorem isDash_iff {d : Char} : isDash d = true ↔ d = '-' ∨ d = '_' ∨ d = '.' := by
  simp only [isDash, dashChars, List.contains_eq_mem, List.mem_cons, List.not_mem_nil, or_false, decide_eq_true_eq]

variable (U : UnicodeOps) [LawfulUnicode U]

theorem toLower_not_dash {c d : Char} (hc : isDash c = false) (hd : d ∈ U.toLower c) : isDash d = false :=
  Bool.eq_false_iff.2 fun hdd => by
    have : c = d := toLower_sep U hd (by rcases isDash_iff.1 hdd with rfl | rfl | rfl <;> decide)
    rw [this, hdd] at hc
    cases hc

omit [LawfulUnicode U] in
theorem pypiLoop_cons (c : Char) (cs : Str) (b : Bool) :
    pypiLoop U (c :: cs) b =
      if isDash c then (if !b then '-' :: pypiLoop U cs true else pypiLoop U cs true)
      else U.toLower c ++ pypiLoop U cs false := rfl

omit [LawfulUnicode U] in
theorem pypiLoop_no_dash {s : Str} (h : ∀ c ∈ s, isDash c = false) (b : Bool) : pypiLoop U s b = U.lowerFull s := by
  induction s generalizing b with
  | nil => rfl
  | cons c cs ih =>
    rw [pypiLoop_cons, h c (by simp)]
    simp only [Bool.false_eq_true, if_false]
    rw [ih (fun d hd => h d (by simp [hd]))]
    rfl

/-- pypi rule: lower-case everything, every maximal run of `- _ .` becomes one `-` -/
theorem fixPypi_eq_loop (n : Str) : fixPypi U n = pypiLoop U n false := by
  unfold fixPypi
  split
  · rfl
  · rename_i h
    have : ∀ c ∈ n, isDash c = false := by
      intro c hc
      simp only [List.any_eq_true, not_exists, not_and, Bool.not_eq_true] at h
      exact h c hc
    rw [lowerInPlace_eq_lowerFull, pypiLoop_no_dash U this]

omit [LawfulUnicode U] in
theorem pypiLoop_append_fixed (L Y : Str) (b : Bool) (hL : ∀ d ∈ L, isDash d = false ∧ U.toLower d = [d]) (hne : L ≠ []) :
    pypiLoop U (L ++ Y) b = L ++ pypiLoop U Y false := by
  induction L generalizing b with
  | nil => exact absurd rfl hne
  | cons d ds ih =>
    have hd := hL d (by simp)
    simp only [List.cons_append]
    rw [pypiLoop_cons, hd.1, hd.2]
    simp only [Bool.false_eq_true, if_false, List.cons_append, List.nil_append]
    cases ds with
    | nil => rfl
    | cons e es =>
      rw [ih false (fun x hx => hL x (by simp [hx])) (by simp)]

theorem pypiLoop_idem (n : Str) (b : Bool) : pypiLoop U (pypiLoop U n b) b = pypiLoop U n b := by
  induction n generalizing b with
  | nil => rfl
  | cons c cs ih =>
    rw [pypiLoop_cons]
    cases hc : isDash c with
    | true =>
      -- inside a run of separators nothing is written; at its start one `-`, which the second pass, in the
      -- same state, writes again
      cases b with
      | true => exact ih true
      | false =>
        show pypiLoop U ('-' :: pypiLoop U cs true) false = '-' :: pypiLoop U cs true
        rw [pypiLoop_cons, ih true]
        rfl
    | false =>
      -- the block `toLower c` consists of fixed points that are no separators: the second pass copies it
      have hL : ∀ d ∈ U.toLower c, isDash d = false ∧ U.toLower d = [d] :=
        fun d hd => ⟨toLower_not_dash U hc hd, LawfulUnicode.lower_idem c d hd⟩
      show pypiLoop U (U.toLower c ++ pypiLoop U cs false) b = U.toLower c ++ pypiLoop U cs false
      rw [pypiLoop_append_fixed U _ _ b hL (LawfulUnicode.lower_ne_nil c), ih false]

theorem fixPypi_idem (n : Str) : fixPypi U (fixPypi U n) = fixPypi U n := by
  rw [fixPypi_eq_loop, fixPypi_eq_loop, pypiLoop_idem]

theorem pypiLoop_ne_nil {n : Str} (h : n ≠ []) : pypiLoop U n false ≠ [] := by
  cases n with
  | nil => exact absurd rfl h
  | cons c cs =>
    rw [pypiLoop_cons]
    cases isDash c with
    | true => simp
    | false =>
      simp only [Bool.false_eq_true, if_false]
      intro e
      exact LawfulUnicode.lower_ne_nil c (List.append_eq_nil_iff.1 e).1

/-- the name rule of a package type (package_type.rs:250-266) -/
def fixName (U : UnicodeOps) : PkgType → Str → Str
  | .NuGet, n => lowerInPlace U n
  | .PyPI, n => fixPypi U n
  | _, n => n

omit [LawfulUnicode U] in
theorem pkgFinish_eq (t : PkgType) (parts : Parts) : pkgFinish U t parts =
    if t = .Maven ∧ (trimMatches '/' parts.ns).isEmpty = true then .error (.missingRequiredField .namespace)
    else .ok { parts with name := fixName U t parts.name } := by
  cases t <;> simp only [pkgFinish, fixName, reduceCtorEq, false_and, true_and, if_false]

omit [LawfulUnicode U] in
theorem pkgFinish_ok {t : PkgType} {a a' : Parts} (h : pkgFinish U t a = .ok a') :
    a' = { a with name := fixName U t a.name } ∧ ¬(t = .Maven ∧ (trimMatches '/' a.ns).isEmpty = true) := by
  rw [pkgFinish_eq] at h
  split at h
  · cases h
  next hm => exact ⟨(Except.ok.inj h).symm, hm⟩

theorem fixName_idem (t : PkgType) (n : Str) : fixName U t (fixName U t n) = fixName U t n := by
  cases t <;> simp only [fixName, lowerInPlace_idem, fixPypi_idem]

omit [LawfulUnicode U] in
theorem fixName_nil (t : PkgType) : fixName U t [] = [] := by
  cases t <;> rfl

theorem fixName_ne_nil (t : PkgType) {n : Str} (h : n ≠ []) : fixName U t n ≠ [] := by
  cases t <;> simp only [fixName]
  case NuGet => rw [lowerInPlace_eq_lowerFull]; exact lowerFull_ne_nil U h
  case PyPI => rw [fixPypi_eq_loop]; exact pypiLoop_ne_nil U h
  all_goals exact h

end Purl
