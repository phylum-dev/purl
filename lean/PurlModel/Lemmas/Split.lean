import PurlModel.Split
namespace Purl

theorem stripPrefix_append (p s : Str) : stripPrefix p (p ++ s) = some s := by
  induction p with
  | nil => simp [stripPrefix]
  | cons c cs ih => simp [stripPrefix, ih]

theorem stripPrefix_eq_some {p s r : Str} (h : stripPrefix p s = some r) : s = p ++ r := by
  induction p generalizing s with
  | nil => simp [stripPrefix] at h; simp [h]
  | cons c cs ih =>
    cases s with
    | nil => simp [stripPrefix] at h
    | cons d ds =>
      by_cases hcd : c = d
      · rw [stripPrefix, if_pos hcd] at h
        rw [hcd, ih h, List.cons_append]
      · simp [stripPrefix, hcd] at h

theorem trimStart_of_head_ne {c : Char} {x : Char} {xs : Str} (h : x ≠ c) :
    trimStart c (x :: xs) = x :: xs := by
  simp [trimStart, h]

theorem trimStart_replicate_append (c : Char) (n : Nat) (s : Str) :
    trimStart c (List.replicate n c ++ s) = trimStart c s := by
  induction n with
  | zero => simp
  | succ n ih => simp [List.replicate_succ, trimStart, ih]

theorem trimStart_eq_self_of_not_head {c : Char} {s : Str} (h : s.head? ≠ some c) :
    trimStart c s = s := by
  cases s with
  | nil => rfl
  | cons x xs => exact trimStart_of_head_ne fun e => h (by rw [e]; rfl)

theorem trimStart_head_ne (c : Char) (s : Str) : (trimStart c s).head? ≠ some c := by
  induction s with
  | nil => simp [trimStart]
  | cons x xs ih =>
    by_cases h : x = c
    · simpa [trimStart, h] using ih
    · simp [trimStart, h]

theorem trimStart_idem (c : Char) (s : Str) : trimStart c (trimStart c s) = trimStart c s :=
  trimStart_eq_self_of_not_head (trimStart_head_ne c s)

/-- `trimEnd` one char at a time, without the definition's match on the recursive call -/
theorem trimEnd_cons (c x : Char) (xs : Str) :
    trimEnd c (x :: xs) = if trimEnd c xs = [] ∧ x = c then [] else x :: trimEnd c xs := by
  simp only [trimEnd]
  cases trimEnd c xs <;> simp

theorem trimEnd_eq_nil_iff (c : Char) (s : Str) : trimEnd c s = [] ↔ ∀ x ∈ s, x = c := by
  induction s with
  | nil => simp [trimEnd]
  | cons x xs ih => rw [trimEnd_cons, List.forall_mem_cons, ← ih]; simp [and_comm]

theorem trimEnd_of_getLast_ne {c : Char} {s : Str} (hne : s ≠ []) (h : s.getLast hne ≠ c) :
    trimEnd c s = s := by
  induction s with
  | nil => exact absurd rfl hne
  | cons x xs ih =>
    rw [trimEnd_cons]
    cases xs with
    | nil => simpa [trimEnd] using h
    | cons y ys => rw [ih (by simp) (by simpa [List.getLast_cons] using h)]; simp

theorem trimMatches_eq_self {c : Char} {s : Str} (h1 : s.head? ≠ some c)
    (h2 : ∀ hne : s ≠ [], s.getLast hne ≠ c) : trimMatches c s = s := by
  unfold trimMatches
  rw [trimStart_eq_self_of_not_head h1]
  by_cases hne : s = []
  · subst hne; rfl
  · exact trimEnd_of_getLast_ne hne (h2 hne)

theorem splitOnce_none_of_not_mem {c : Char} {s : Str} (h : c ∉ s) : splitOnce c s = none := by
  induction s with
  | nil => rfl
  | cons x xs ih =>
    rw [List.mem_cons, not_or] at h
    simp [splitOnce, Ne.symm h.1, ih h.2]

theorem splitOnce_append {c : Char} {a : Str} (b : Str) (h : c ∉ a) :
    splitOnce c (a ++ c :: b) = some (a, b) := by
  induction a with
  | nil => simp [splitOnce]
  | cons x xs ih =>
    rw [List.mem_cons, not_or] at h
    simp [splitOnce, Ne.symm h.1, ih h.2]

theorem rsplitOnce_none_of_not_mem {c : Char} {s : Str} (h : c ∉ s) : rsplitOnce c s = none := by
  induction s with
  | nil => rfl
  | cons x xs ih =>
    rw [List.mem_cons, not_or] at h
    simp [rsplitOnce, Ne.symm h.1, ih h.2]

theorem rsplitOnce_append (a : Str) {c : Char} {b : Str} (h : c ∉ b) :
    rsplitOnce c (a ++ c :: b) = some (a, b) := by
  induction a with
  | nil => simp [rsplitOnce, rsplitOnce_none_of_not_mem h]
  | cons x xs ih => simp [rsplitOnce, ih]

/-! every string is free of `c` or `a ++ c :: b`, so the converses are corollaries -/

/-- the last occurrence (core has the first: `List.eq_append_cons_of_mem`) -/
theorem eq_append_cons_of_mem_last {c : Char} {s : Str} (h : c ∈ s) : ∃ a b, s = a ++ c :: b ∧ c ∉ b := by
  obtain ⟨b, a, e, hn⟩ := List.eq_append_cons_of_mem (List.mem_reverse.2 h)
  refine ⟨a.reverse, b.reverse, ?_, by simpa using hn⟩
  have := congrArg List.reverse e
  simpa using this

theorem splitOnce_eq_none {c : Char} {s : Str} (h : splitOnce c s = none) : c ∉ s := by
  intro hm
  obtain ⟨a, b, rfl, ha⟩ := List.eq_append_cons_of_mem hm
  rw [splitOnce_append b ha] at h
  cases h

theorem splitOnce_eq_some {c : Char} {s a b : Str} (h : splitOnce c s = some (a, b)) :
    s = a ++ c :: b ∧ c ∉ a := by
  by_cases hm : c ∈ s
  · obtain ⟨a', b', rfl, ha⟩ := List.eq_append_cons_of_mem hm
    rw [splitOnce_append b' ha] at h
    cases h
    exact ⟨rfl, ha⟩
  · rw [splitOnce_none_of_not_mem hm] at h
    cases h

theorem rsplitOnce_eq_none {c : Char} {s : Str} (h : rsplitOnce c s = none) : c ∉ s := by
  intro hm
  obtain ⟨a, b, rfl, hb⟩ := eq_append_cons_of_mem_last hm
  rw [rsplitOnce_append a hb] at h
  cases h

theorem rsplitOnce_eq_some {c : Char} {s a b : Str} (h : rsplitOnce c s = some (a, b)) :
    s = a ++ c :: b ∧ c ∉ b := by
  by_cases hm : c ∈ s
  · obtain ⟨a', b', rfl, hb⟩ := eq_append_cons_of_mem_last hm
    rw [rsplitOnce_append a' hb] at h
    cases h
    exact ⟨rfl, hb⟩
  · rw [rsplitOnce_none_of_not_mem hm] at h
    cases h

theorem splitOn_of_not_mem {c : Char} {s : Str} (h : c ∉ s) : splitOn c s = [s] := by
  induction s with
  | nil => rfl
  | cons x xs ih =>
    rw [List.mem_cons, not_or] at h
    simp [splitOn, Ne.symm h.1, ih h.2]

theorem joinWith_cons_flatMap (c : Char) (a : Str) (l : List Str) :
    joinWith c (a :: l) = a ++ l.flatMap fun x => c :: x := by
  induction l generalizing a with
  | nil => simp [joinWith]
  | cons b rest ih => simp [joinWith, ih b]

theorem joinWith_ne_nil {c : Char} {l : List Str} (hne : l ≠ []) (h : ∀ a ∈ l, a ≠ []) : joinWith c l ≠ [] := by
  cases l with
  | nil => exact absurd rfl hne
  | cons a rest =>
    rw [joinWith_cons_flatMap]
    intro e
    exact h a (by simp) (List.append_eq_nil_iff.1 e).1

theorem joinWith_joinWith_cons (c : Char) {l : List Str} (hne : l ≠ []) (tl : List Str) :
    joinWith c (joinWith c l :: tl) = joinWith c (l ++ tl) := by
  cases l with
  | nil => exact absurd rfl hne
  | cons a l =>
    rw [List.cons_append, joinWith_cons_flatMap, joinWith_cons_flatMap, joinWith_cons_flatMap, List.flatMap_append,
      List.append_assoc]

/-- at least one piece, so the `[]` arm of the inner match of `splitOn` is never taken -/
theorem splitOn_spec (c : Char) (s : Str) :
    ∃ hd tl, splitOn c s = hd :: tl ∧ (∀ p ∈ hd :: tl, c ∉ p) ∧ joinWith c (hd :: tl) = s := by
  induction s with
  | nil => exact ⟨[], [], rfl, by simp, rfl⟩
  | cons x xs ih =>
    obtain ⟨hd, tl, e, h, rfl⟩ := ih
    by_cases hx : x = c
    · exact ⟨[], hd :: tl, by rw [splitOn, if_pos hx, e], List.forall_mem_cons.2 ⟨List.not_mem_nil, h⟩, by rw [hx]; rfl⟩
    · obtain ⟨h1, h2⟩ := List.forall_mem_cons.1 h
      refine ⟨x :: hd, tl, by rw [splitOn, if_neg hx, e], List.forall_mem_cons.2 ⟨?_, h2⟩, by cases tl <;> rfl⟩
      exact fun hm => (List.mem_cons.1 hm).elim (fun e => hx e.symm) h1

theorem splitOn_ne_nil (c : Char) (s : Str) : splitOn c s ≠ [] := by
  obtain ⟨hd, tl, e, _⟩ := splitOn_spec c s
  rw [e]
  exact List.cons_ne_nil hd tl

theorem not_mem_of_mem_splitOn {c : Char} {s p : Str} (h : p ∈ splitOn c s) : c ∉ p := by
  obtain ⟨hd, tl, e, hp, _⟩ := splitOn_spec c s
  exact hp p (e ▸ h)

theorem joinWith_splitOn (c : Char) (s : Str) : joinWith c (splitOn c s) = s := by
  obtain ⟨hd, tl, e, _, hj⟩ := splitOn_spec c s
  rw [e, hj]

theorem splitOn_append_cons (c : Char) (a b : Str) : splitOn c (a ++ c :: b) = splitOn c a ++ splitOn c b := by
  induction a with
  | nil => simp [splitOn]
  | cons x xs ih =>
    obtain ⟨hd, tl, e, _⟩ := splitOn_spec c xs
    simp only [List.cons_append, splitOn, ih, e]
    split <;> rfl

theorem splitOn_append {c : Char} {a : Str} (b : Str) (h : c ∉ a) :
    splitOn c (a ++ c :: b) = a :: splitOn c b := by
  rw [splitOn_append_cons, splitOn_of_not_mem h]
  rfl

theorem splitOn_joinWith {c : Char} {l : List Str} (hne : l ≠ []) (h : ∀ p ∈ l, c ∉ p) :
    splitOn c (joinWith c l) = l := by
  induction l with
  | nil => exact absurd rfl hne
  | cons a rest ih =>
    cases rest with
    | nil => simp [joinWith, splitOn_of_not_mem (h a (by simp))]
    | cons b rest' =>
      simp only [joinWith]
      rw [splitOn_append _ (h a (by simp)), ih (by simp) fun p hp => h p (by simp [hp])]

theorem mem_joinWith_of_ne {c x : Char} (hx : x ≠ c) (l : List Str) : x ∈ joinWith c l ↔ ∃ p ∈ l, x ∈ p := by
  induction l with
  | nil => simp [joinWith]
  | cons a rest ih =>
    cases rest with
    | nil => simp [joinWith]
    | cons b rest' =>
      simp only [joinWith, List.mem_append, List.mem_cons, hx, false_or]
      rw [ih]
      simp

theorem mem_joinWith_perm {c x : Char} (hx : x ≠ c) {l₁ l₂ : List Str} (h : l₁.Perm l₂) :
    x ∈ joinWith c l₁ ↔ x ∈ joinWith c l₂ := by
  rw [mem_joinWith_of_ne hx, mem_joinWith_of_ne hx]
  constructor
  · rintro ⟨p, hp, hm⟩; exact ⟨p, h.subset hp, hm⟩
  · rintro ⟨p, hp, hm⟩; exact ⟨p, h.symm.subset hp, hm⟩

theorem splitOn_append_replicate (c : Char) (s : Str) (k : Nat) :
    splitOn c (s ++ List.replicate k c) = splitOn c s ++ List.replicate k [] := by
  induction k with
  | zero => simp
  | succ k ih =>
    rw [List.replicate_succ', ← List.append_assoc, splitOn_append_cons, ih, List.append_assoc, List.replicate_succ']
    rfl

theorem trimEnd_decomp (c : Char) (s : Str) : ∃ k, s = trimEnd c s ++ List.replicate k c := by
  induction s with
  | nil => exact ⟨0, rfl⟩
  | cons x xs ih =>
    obtain ⟨k, hk⟩ := ih
    rw [trimEnd_cons]
    split
    · rename_i h  -- nothing is left of `xs`, and `x` goes too: one more `c`
      exact ⟨k + 1, by rw [hk, h.1, h.2]; rfl⟩
    · exact ⟨k, by rw [List.cons_append, ← hk]⟩

theorem trimStart_decomp (c : Char) (s : Str) : ∃ k, s = List.replicate k c ++ trimStart c s := by
  fun_induction trimStart c s with
  | case1 => exact ⟨0, rfl⟩
  | case2 xs ih =>
    obtain ⟨k, hk⟩ := ih
    exact ⟨k + 1, by rw [List.replicate_succ, List.cons_append, ← hk]⟩
  | case3 x xs hx => exact ⟨0, rfl⟩

theorem splitOn_replicate_append (c : Char) (k : Nat) (s : Str) :
    splitOn c (List.replicate k c ++ s) = List.replicate k [] ++ splitOn c s := by
  induction k with
  | zero => simp
  | succ k ih => simp [List.replicate_succ, splitOn, ih]

theorem splitOn_trimMatches (c : Char) (s : Str) :
    (splitOn c (trimMatches c s)).filter (fun p => !p.isEmpty) = (splitOn c s).filter (fun p => !p.isEmpty) := by
  obtain ⟨a, ha⟩ := trimStart_decomp c s
  obtain ⟨b, hb⟩ := trimEnd_decomp c (trimStart c s)
  conv => rhs; rw [ha, splitOn_replicate_append, hb, splitOn_append_replicate]
  simp [trimMatches, List.filter_append]

end Purl
