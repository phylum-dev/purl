/-
  UTF-8, percent-encoding and hex (PurlModel.Bytes): strict decoding inverts `utf8` (core Lean's verified decoder);
  `String.utf8EncodeChar` as arithmetic on the scalar value (`encNat`); the percent-decoder one step at a time;
  which chars an encoded component can contain (`mem_pctEncode`).
-/
import PurlModel.Bytes
import PurlModel.Lemmas.Split
namespace Purl

/-- lets `decide` enumerate the bytes below `k` -/
theorem UInt8.forall_lt {p : UInt8 → Prop} (k : Nat) (h : ∀ n : Nat, n < k → p (UInt8.ofNat n))
    (b : UInt8) (hb : b.toNat < k) : p b := by
  simpa using h b.toNat hb

theorem UInt8.forall_of_nat {p : UInt8 → Prop} (h : ∀ n : Nat, n < 256 → p (UInt8.ofNat n)) (b : UInt8) : p b :=
  UInt8.forall_lt 256 h b b.toNat_lt

theorem UInt8.div16_lt (b : UInt8) : (b / 16).toNat < 16 := by
  have := b.toNat_lt
  rw [UInt8.toNat_div]; simp only [UInt8.reduceToNat]; omega

theorem UInt8.mod16_lt (b : UInt8) : (b % 16).toNat < 16 := by
  rw [UInt8.toNat_mod]; simp only [UInt8.reduceToNat]; omega

theorem UInt8.div_mod_16 (b : UInt8) : (b / 16) * 16 + b % 16 = b := by
  have h := b.toNat_lt
  rw [← UInt8.toNat_inj, UInt8.toNat_add, UInt8.toNat_mul, UInt8.toNat_div, UInt8.toNat_mod]
  simp only [UInt8.reduceToNat]
  -- neither the product nor the sum overflows
  rw [Nat.mod_eq_of_lt (by omega : b.toNat / 16 * 16 < 256), Nat.div_add_mod', Nat.mod_eq_of_lt h]

theorem nibbles (hv lv : UInt8) (h1 : hv < 16) (h2 : lv < 16) :
    (hv * 16 + lv) / 16 = hv ∧ (hv * 16 + lv) % 16 = lv := by
  have a : hv.toNat < 16 := h1
  have b : lv.toNat < 16 := h2
  -- no overflow, so these are quotient and remainder of `16 * h + l` in `Nat`
  have e : (hv * 16 + lv).toNat = 16 * hv.toNat + lv.toNat := by
    rw [UInt8.toNat_add, UInt8.toNat_mul]
    simp only [UInt8.reduceToNat]
    rw [Nat.mod_eq_of_lt (by omega : hv.toNat * 16 < 256), Nat.mod_eq_of_lt (by omega), Nat.mul_comm]
  simp only [← UInt8.toNat_inj, UInt8.toNat_div, UInt8.toNat_mod, e, UInt8.reduceToNat]
  rw [Nat.mul_add_div (by decide), Nat.mul_add_mod, Nat.div_eq_of_lt b, Nat.mod_eq_of_lt b]
  exact ⟨rfl, rfl⟩

def isHexUpperChar (c : Char) : Bool :=
  ('0'.toNat ≤ c.toNat && c.toNat ≤ '9'.toNat) || ('A'.toNat ≤ c.toNat && c.toNat ≤ 'F'.toNat)

theorem isHexUpperChar_printable {c : Char} (h : isHexUpperChar c = true) : 0x21 ≤ c.toNat ∧ c.toNat ≤ 0x7E := by
  simp only [isHexUpperChar, Char.reduceToNat, Bool.or_eq_true, Bool.and_eq_true, decide_eq_true_eq] at h
  omega

theorem hexUpperDigit_spec (n : UInt8) (h : n.toNat < 16) :
    isHexUpperChar (hexUpperDigit n) = true ∧ hexValChar (hexUpperDigit n) = some n :=
  UInt8.forall_lt (p := fun n => isHexUpperChar (hexUpperDigit n) = true ∧ hexValChar (hexUpperDigit n) = some n)
    16 (by decide +kernel) n h

theorem hexValChar_hexLowerDigit (n : UInt8) (h : n.toNat < 16) : hexValChar (hexLowerDigit n) = some n :=
  UInt8.forall_lt (p := fun n => hexValChar (hexLowerDigit n) = some n) 16 (by decide +kernel) n h

theorem hexValChar_ascii {c : Char} {v : UInt8} (h : hexValChar c = some v) :
    c.toNat < 128 ∧ hexVal c.toNat.toUInt8 = some v := by
  unfold hexValChar at h
  split at h
  · rename_i hlt; exact ⟨hlt, h⟩
  · simp at h

theorem hexVal_bounds {b v : UInt8} (h : hexVal b = some v) : b < 128 ∧ v < 16 := by
  have key : ∀ b : UInt8, (hexVal b).all (fun v => b < 128 ∧ v < 16) = true := by
    apply UInt8.forall_of_nat
    decide +kernel
  simpa [h] using key b

theorem utf8_nil : utf8 [] = [] := rfl

theorem utf8_cons (c : Char) (s : Str) : utf8 (c :: s) = String.utf8EncodeChar c ++ utf8 s := by
  simp [utf8]

theorem utf8_append (a b : Str) : utf8 (a ++ b) = utf8 a ++ utf8 b := by
  simp [utf8]

theorem utf8EncodeChar_ne_nil (c : Char) : String.utf8EncodeChar c ≠ [] := String.utf8EncodeChar_ne_nil

theorem utf8_ne_nil {s : Str} (h : s ≠ []) : utf8 s ≠ [] := by
  cases s with
  | nil => exact absurd rfl h
  | cons c cs =>
    rw [utf8_cons]
    intro e
    exact utf8EncodeChar_ne_nil c (List.append_eq_nil_iff.1 e).1

theorem utf8Dec?_utf8 (s : Str) : utf8Dec? (utf8 s) = some s := by
  have h := List.utf8Decode?_utf8Encode (l := s)
  unfold utf8Dec? utf8
  unfold List.utf8Encode at h
  rw [h]
  simp

theorem utf8_of_utf8Dec? {b : Bytes} {s : Str} (h : utf8Dec? b = some s) : utf8 s = b := by
  obtain ⟨arr, hd, rfl⟩ := Option.map_eq_some_iff.1 h
  have := ByteArray.utf8Encode_get_utf8Decode? (h := Option.isSome_of_eq_some hd)
  simp only [hd, Option.get_some, List.utf8Encode] at this
  exact List.toByteArray_inj.1 this

theorem utf8_injective {a b : Str} (h : utf8 a = utf8 b) : a = b := by
  have ha := utf8Dec?_utf8 a
  rw [h, utf8Dec?_utf8] at ha
  exact (Option.some.inj ha).symm

theorem utf8EncodeChar_ascii {c : Char} (h : c.toNat < 128) :
    String.utf8EncodeChar c = [c.toNat.toUInt8] := by
  have h' : c.val.toNat ≤ 127 := by
    have : c.val.toNat < 128 := h
    omega
  unfold String.utf8EncodeChar
  simp only [h', if_true]
  rfl

theorem utf8_length_ascii {s : Str} (h : ∀ c ∈ s, c.toNat < 128) : (utf8 s).length = s.length := by
  induction s with
  | nil => rfl
  | cons c cs ih =>
    rw [utf8_cons, utf8EncodeChar_ascii (h c (by simp))]
    simp [ih (fun d hd => h d (by simp [hd]))]

/-- the UTF-8 bytes of the scalar value `v`, as naturals (the definition of `String.utf8EncodeChar`) -/
def encNat (v : Nat) : List Nat :=
  if v ≤ 0x7f then [v]
  else if v ≤ 0x7ff then [v / 64 % 0x20 + 0xc0, v % 0x40 + 0x80]
  else if v ≤ 0xffff then [v / 4096 % 0x10 + 0xe0, v / 64 % 0x40 + 0x80, v % 0x40 + 0x80]
  else [v / 262144 % 0x08 + 0xf0, v / 4096 % 0x40 + 0x80, v / 64 % 0x40 + 0x80, v % 0x40 + 0x80]

theorem toNat_toUInt8_of_lt {n : Nat} (h : n < 256) : n.toUInt8.toNat = n := UInt8.toNat_ofNat_of_lt' h

theorem toNat_ofNat_mod_add (a : Nat) {m p : Nat} (h : 0 < m ∧ m + p ≤ 256) :
    (UInt8.ofNat (a % m + p)).toNat = a % m + p :=
  toNat_toUInt8_of_lt (by have := Nat.mod_lt a h.1; omega)

theorem utf8EncodeChar_toNat (c : Char) : (String.utf8EncodeChar c).map UInt8.toNat = encNat c.toNat := by
  show _ = encNat c.val.toNat
  unfold String.utf8EncodeChar encNat
  dsimp only
  by_cases h : c.val.toNat ≤ 0x7f
  · rw [if_pos h, if_pos h, List.map_cons, List.map_nil, toNat_toUInt8_of_lt (by omega)]
  · rw [if_neg h, if_neg h]
    -- every other byte is `a % m + p` with `m + p ≤ 256`
    simp only [apply_ite (List.map UInt8.toNat), List.map_cons, List.map_nil,
      toNat_ofNat_mod_add _ (m := 0x40) (p := 0x80) (by decide),
      toNat_ofNat_mod_add _ (m := 0x20) (p := 0xc0) (by decide),
      toNat_ofNat_mod_add _ (m := 0x10) (p := 0xe0) (by decide),
      toNat_ofNat_mod_add _ (m := 0x08) (p := 0xf0) (by decide)]

/-- every byte of a longer encoding is some digits plus a marker of at least 0x80 -/
theorem le_of_mem_encNat {v x : Nat} (hv : ¬ v ≤ 0x7f) (hx : x ∈ encNat v) : 0x80 ≤ x := by
  have k (a : Nat) {p : Nat} (hp : 0x80 ≤ p) : 0x80 ≤ a + p := Nat.le_trans hp (Nat.le_add_left p a)
  unfold encNat at hx
  rw [if_neg hv] at hx
  repeat' split at hx
  all_goals
    simp only [List.mem_cons, List.not_mem_nil, or_false] at hx
    rcases hx with rfl | rfl | rfl | rfl <;> exact k _ (by decide)

theorem utf8EncodeChar_ascii_byte {c : Char} {b : UInt8} (hb : b ∈ String.utf8EncodeChar c) (hlt : b < 128) :
    c.toNat < 128 ∧ b = c.toNat.toUInt8 := by
  by_cases hc : c.toNat < 128
  · rw [utf8EncodeChar_ascii hc] at hb
    exact ⟨hc, List.mem_singleton.1 hb⟩
  · have hm : b.toNat ∈ encNat c.toNat := by
      rw [← utf8EncodeChar_toNat]; exact List.mem_map_of_mem hb
    exact absurd (UInt8.lt_iff_toNat_lt.1 hlt) (Nat.not_lt.2 (le_of_mem_encNat (by omega) hm))

theorem enc_shape (c : Char) : ∃ b0 tl, String.utf8EncodeChar c = b0 :: tl ∧ b0.IsUTF8FirstByte ∧
    ∀ x ∈ tl, ¬ x.IsUTF8FirstByte := by
  cases h : String.utf8EncodeChar c with
  | nil => exact absurd h (utf8EncodeChar_ne_nil c)
  | cons b0 tl =>
    refine ⟨b0, tl, rfl, ?_, ?_⟩
    · have hi : 0 < (String.utf8EncodeChar c).length := by rw [h]; simp
      have := (UInt8.isUTF8FirstByte_getElem_utf8EncodeChar (c := c) (i := 0) (hi := hi)).2 rfl
      simpa [h] using this
    · intro x hx hfb
      obtain ⟨i, hi, hxi⟩ := List.getElem_of_mem hx
      have hi' : i + 1 < (String.utf8EncodeChar c).length := by rw [h]; simpa using hi
      have := (UInt8.isUTF8FirstByte_getElem_utf8EncodeChar (c := c) (i := i + 1) (hi := hi')).1
        (by simpa [h, hxi] using hfb)
      omega

theorem enc_prefix_free {c d : Char} {x y : Bytes}
    (h : String.utf8EncodeChar d ++ x = String.utf8EncodeChar c ++ y) : d = c ∧ x = y := by
  have h1 := ByteArray.utf8DecodeChar?_utf8EncodeChar_append (b := x.toByteArray) (c := d)
  have h2 := ByteArray.utf8DecodeChar?_utf8EncodeChar_append (b := y.toByteArray) (c := c)
  rw [← List.toByteArray_append] at h1 h2
  rw [h, h2] at h1
  have e : c = d := by simpa using h1
  subst e
  exact ⟨rfl, List.append_cancel_left h⟩

theorem pctDecode_nil : pctDecode [] = [] := rfl

theorem pctDecode_cons_ne {b : UInt8} (rest : Bytes) (h : b ≠ 0x25) :
    pctDecode (b :: rest) = b :: pctDecode rest := by
  simp [pctDecode, pctDecodeAux, h]

theorem pctDecode_pct {h l hv lv : UInt8} (rest : Bytes) (hh : hexVal h = some hv) (hl : hexVal l = some lv) :
    pctDecode (0x25 :: h :: l :: rest) = (hv * 16 + lv) :: pctDecode rest := by
  simp [pctDecode, pctDecodeAux, hh, hl]

theorem pctDecode_ne_nil {b : Bytes} (h : b ≠ []) : pctDecode b ≠ [] := by
  cases b with
  | nil => exact absurd rfl h
  | cons x rest =>
    -- every branch of the first step emits a byte
    simp only [pctDecode, pctDecodeAux]
    split
    · split
      · split <;> simp
      · simp
    · simp

theorem decode_ok_iff_bytes {s t : Str} : decode s = .ok t ↔ pctDecode (utf8 s) = utf8 t := by
  unfold decode
  constructor
  · intro h
    split at h
    · rename_i t' ht
      cases h
      exact (utf8_of_utf8Dec? ht).symm
    · cases h
  · intro h
    rw [h, utf8Dec?_utf8]

theorem decode_of_bytes {s t : Str} (h : pctDecode (utf8 s) = utf8 t) : decode s = .ok t := decode_ok_iff_bytes.2 h

theorem decode_ne_nil {s d : Str} (hs : s ≠ []) (h : decode s = .ok d) : d ≠ [] := by
  rintro rfl
  exact pctDecode_ne_nil (utf8_ne_nil hs) (decode_ok_iff_bytes.1 h)

theorem decode_nil : decode [] = .ok [] := decode_of_bytes rfl

theorem decode_error_kind {s : Str} {e : PErr} (h : decode s = .error e) : e = .invalidEscape := by
  unfold decode at h
  split at h <;> simp at h
  exact h.symm

theorem pctEncodeByte_cases (set : UInt8 → Bool) (b : UInt8) :
    pctEncodeByte set b = ['%', hexUpperDigit (b / 16), hexUpperDigit (b % 16)] ∨
    (b < 128 ∧ set b = false ∧ pctEncodeByte set b = [Char.ofNat b.toNat]) := by
  unfold pctEncodeByte
  split
  · exact .inl rfl
  · rename_i h
    simp only [Bool.or_eq_true, decide_eq_true_eq, not_or, Bool.not_eq_true] at h
    exact .inr ⟨UInt8.not_le.1 h.1, h.2, rfl⟩

theorem mem_pctEncode {set : UInt8 → Bool} {s : Str} {c : Char} (h : c ∈ pctEncode set s) :
    c = '%' ∨ isHexUpperChar c = true ∨ (c ∈ s ∧ c.toNat < 128 ∧ set c.toNat.toUInt8 = false) := by
  obtain ⟨b, hb, hc⟩ := List.mem_flatMap.1 h
  rcases pctEncodeByte_cases set b with e | ⟨hlt, hs, e⟩ <;> rw [e] at hc
  · simp only [List.mem_cons, List.not_mem_nil, or_false] at hc
    rcases hc with rfl | rfl | rfl
    · exact .inl rfl
    · exact .inr (.inl (hexUpperDigit_spec _ (UInt8.div16_lt b)).1)
    · exact .inr (.inl (hexUpperDigit_spec _ (UInt8.mod16_lt b)).1)
  · -- an ASCII byte of `utf8 s` is the whole encoding of an ASCII char `c0` of `s`, and `c` is that char
    obtain rfl := List.mem_singleton.1 hc
    obtain ⟨c0, hc0, hb0⟩ := List.mem_flatMap.1 hb
    obtain ⟨h1, rfl⟩ := utf8EncodeChar_ascii_byte hb0 hlt
    rw [toNat_toUInt8_of_lt (by omega), Char.ofNat_toNat]
    exact .inr (.inr ⟨hc0, h1, hs⟩)

theorem not_mem_pctEncode {set : UInt8 → Bool} {s : Str} {c : Char} (hc : c ≠ '%')
    (hh : isHexUpperChar c = false) (hs : set c.toNat.toUInt8 = true) : c ∉ pctEncode set s := by
  intro h
  rcases mem_pctEncode h with h | h | ⟨_, _, h⟩
  · exact hc h
  · rw [hh] at h; cases h
  · rw [hs] at h; cases h

theorem mem_of_mem_pctEncode {set : UInt8 → Bool} {s : Str} {c : Char} (h : c ∈ pctEncode set s)
    (h1 : c ≠ '%') (h2 : isHexUpperChar c = false) : c ∈ s := by
  rcases mem_pctEncode h with h | h | h
  · exact absurd h h1
  · rw [h2] at h; cases h
  · exact h.1

theorem pctEncode_nil (set : UInt8 → Bool) : pctEncode set [] = [] := rfl

theorem pctEncodeByte_ne_nil (set : UInt8 → Bool) (b : UInt8) : pctEncodeByte set b ≠ [] := by
  rcases pctEncodeByte_cases set b with e | ⟨_, _, e⟩ <;> rw [e] <;> exact List.cons_ne_nil _ _

theorem pctEncode_eq_nil_iff {set : UInt8 → Bool} {s : Str} : pctEncode set s = [] ↔ s = [] := by
  cases s with
  | nil => exact ⟨fun _ => rfl, fun _ => rfl⟩
  | cons c cs =>
    obtain ⟨b, bs, e⟩ := List.exists_cons_of_ne_nil (utf8EncodeChar_ne_nil c)
    simp [pctEncode, utf8_cons, e, pctEncodeByte_ne_nil]

theorem pctEncode_printable {set : UInt8 → Bool} (hset : ∀ b : UInt8, (b < 0x21 ∨ b = 0x7F) → set b = true)
    {s : Str} {c : Char} (h : c ∈ pctEncode set s) : 0x21 ≤ c.toNat ∧ c.toNat ≤ 0x7E := by
  rcases mem_pctEncode h with rfl | h | ⟨_, hlt, hs⟩
  · decide
  · exact isHexUpperChar_printable h
  · have e : c.toNat.toUInt8.toNat = c.toNat := toNat_toUInt8_of_lt (by omega)
    have a1 : ¬ c.toNat.toUInt8.toNat < 0x21 := fun hh => by
      rw [hset _ (.inl (UInt8.lt_iff_toNat_lt.2 hh))] at hs; cases hs
    have a2 : c.toNat.toUInt8.toNat ≠ 0x7F := fun hh => by
      rw [hset _ (.inr (UInt8.toNat_inj.1 hh))] at hs; cases hs
    omega

theorem pctEncode_append (set : UInt8 → Bool) (a b : Str) :
    pctEncode set (a ++ b) = pctEncode set a ++ pctEncode set b := by
  simp [pctEncode, utf8_append]

theorem pctEncode_cons_ascii_raw (set : UInt8 → Bool) {c : Char} (hc : c.toNat < 128)
    (hs : set c.toNat.toUInt8 = false) (s : Str) : pctEncode set (c :: s) = c :: pctEncode set s := by
  have e : c.toNat.toUInt8.toNat = c.toNat := toNat_toUInt8_of_lt (by omega)
  have hb : ¬ (c.toNat.toUInt8 ≥ 128) := by rw [ge_iff_le, UInt8.le_iff_toNat_le, e]; exact Nat.not_le.2 hc
  simp [pctEncode, utf8_cons, utf8EncodeChar_ascii hc, pctEncodeByte, hs, hb, e]

theorem pctEncode_singleton_raw (set : UInt8 → Bool) {c : Char} (hc : c.toNat < 128) (hs : set c.toNat.toUInt8 = false) :
    pctEncode set [c] = [c] :=
  pctEncode_cons_ascii_raw set hc hs []

theorem pctEncode_raw {set : UInt8 → Bool} {s : Str} (h : ∀ c ∈ s, c.toNat < 128 ∧ set c.toNat.toUInt8 = false) :
    pctEncode set s = s := by
  induction s with
  | nil => rfl
  | cons c cs ih =>
    obtain ⟨⟨hc, hs⟩, hcs⟩ := List.forall_mem_cons.1 h
    rw [pctEncode_cons_ascii_raw set hc hs, ih hcs]

theorem pctEncode_joinWith (set : UInt8 → Bool) {c : Char} (hc : c.toNat < 128) (hs : set c.toNat.toUInt8 = false)
    (l : List Str) : pctEncode set (joinWith c l) = joinWith c (l.map (pctEncode set)) := by
  induction l with
  | nil => rfl
  | cons a rest ih =>
    cases rest with
    | nil => rfl
    | cons b rest' =>
      simp only [joinWith, List.map_cons] at ih ⊢
      rw [pctEncode_append, pctEncode_cons_ascii_raw set hc hs, ih]

theorem hexDecode_hexEncode (b : Bytes) : hexDecode (hexEncode b) = some b := by
  induction b with
  | nil => rfl
  | cons x xs ih =>
    simp only [hexEncode, List.flatMap_cons, List.cons_append, List.nil_append] at ih ⊢
    simp only [hexDecode, hexValChar_hexLowerDigit _ (UInt8.div16_lt x), hexValChar_hexLowerDigit _ (UInt8.mod16_lt x), ih,
      UInt8.div_mod_16]

end Purl
