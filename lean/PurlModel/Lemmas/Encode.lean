/-
  What `Display` writes for a component is one of its spellings (`PctSp`): the canonical string is inside the
  family of legal spellings, not beside it, so that it decodes to the component (`decode_pctEncode`) is a case
  of `pct_spelling_decodes`.  `Reserved`: what the proofs about a printed string need of an escape set.
-/
import PurlModel.Lemmas.PctSpelling
import PurlModel.Lemmas.Quals
namespace Purl
open Generated

/-- read along the table (43 entries), not along the bytes (128 look-ups in it) -/
theorem qkeyEscBytes_not_keyChar : ∀ b ∈ qkeyEscBytes,
    (isAsciiAlnum (Char.ofNat b.toNat) || keySpecials.contains (Char.ofNat b.toNat)) = false := by
  decide +kernel

theorem pctEncode_key_of_valid {k : Str} (h : isValidKey k = true) : pctEncode qkeyEsc k = k := by
  refine pctEncode_raw fun c hc => ?_
  have hv := isValidKey_chars h c hc
  have ha : c.toNat < 128 := isAscii_iff.1 (validKeyChar_ascii hv)
  refine ⟨ha, Bool.eq_false_iff.2 fun hm => ?_⟩
  have := qkeyEscBytes_not_keyChar _ (List.contains_iff_mem.1 hm)
  rw [toNat_toUInt8_of_lt (by omega), Char.ofNat_toNat, hv] at this
  cases this

theorem bytesSp_escaped (set : UInt8 → Bool) (bs : Bytes) (h : ∀ b ∈ bs, (b ≥ 128 || set b) = true) :
    BytesSp bs (bs.flatMap (pctEncodeByte set)) := by
  induction bs with
  | nil => exact .nil
  | cons b rest ih =>
    have hb : pctEncodeByte set b = ['%', hexUpperDigit (b / 16), hexUpperDigit (b % 16)] := if_pos (h b (by simp))
    rw [List.flatMap_cons, hb]
    exact .cons b _ _ rest _ (hexUpperDigit_spec _ (UInt8.div16_lt b)).2 (hexUpperDigit_spec _ (UInt8.mod16_lt b)).2
      (ih fun x hx => h x (by simp [hx]))

theorem pctEncode_spells (set : UInt8 → Bool) (hp : set 0x25 = true) (s : Str) : PctSp s (pctEncode set s) := by
  induction s with
  | nil => exact .nil
  | cons c cs ih =>
    by_cases hraw : c.toNat < 128 ∧ set c.toNat.toUInt8 = false
    · -- an ASCII char outside the set is left raw, and is not '%'
      rw [pctEncode_cons_ascii_raw set hraw.1 hraw.2]
      refine .raw c cs _ ?_ ih
      rintro rfl
      exact absurd hp (by rw [show set 0x25 = false from hraw.2]; decide)
    · -- of any other char every byte is escaped
      have hall : ∀ b ∈ String.utf8EncodeChar c, (b ≥ 128 || set b) = true := by
        intro b hb
        by_cases hlt : b < 128
        · obtain ⟨hc, rfl⟩ := utf8EncodeChar_ascii_byte hb hlt
          simp only [hc, true_and, Bool.not_eq_false] at hraw
          simp [hraw]
        · simp [UInt8.not_lt.1 hlt]
      have e : pctEncode set (c :: cs) =
          (String.utf8EncodeChar c).flatMap (pctEncodeByte set) ++ pctEncode set cs := by
        simp [pctEncode, utf8_cons]
      rw [e]
      exact .pct c _ cs _ (bytesSp_escaped set _ hall) ih

theorem decode_pctEncode (set : UInt8 → Bool) (hp : set 0x25 = true) (s : Str) :
    decode (pctEncode set s) = .ok s :=
  pct_spelling_decodes s _ (pctEncode_spells set hp s)

theorem eq_of_pctEncode_eq {set : UInt8 → Bool} (hp : set 0x25 = true) {d t : Str} (ht : decode t = .ok t)
    (e : pctEncode set d = t) : d = t :=
  (e ▸ pctEncode_spells set hp d).unique ht

theorem pctEncode_eq_dot {set : UInt8 → Bool} (hp : set 0x25 = true) {d : Str} :
    (pctEncode set d = ['.'] → d = ['.']) ∧ (pctEncode set d = ['.', '.'] → d = ['.', '.']) :=
  ⟨eq_of_pctEncode_eq hp (decode_of_bytes (by decide +kernel)), eq_of_pctEncode_eq hp (decode_of_bytes (by decide +kernel))⟩

/-- an escape set under which a printed string splits where it was put together and decodes to what
was printed: `%` and the separators `#`, `?`, `@` are escaped -/
structure Reserved (set : UInt8 → Bool) : Prop where
  pct : set ('%' : Char).toNat.toUInt8 = true
  hash : set ('#' : Char).toNat.toUInt8 = true
  qmark : set ('?' : Char).toNat.toUInt8 = true
  at_ : set ('@' : Char).toNat.toUInt8 = true

theorem namespaceEsc_reserved : Reserved namespaceEsc := ⟨by decide +kernel, by decide +kernel, by decide +kernel, by decide +kernel⟩
theorem nameEsc_reserved : Reserved nameEsc := ⟨by decide +kernel, by decide +kernel, by decide +kernel, by decide +kernel⟩
theorem versionEsc_reserved : Reserved versionEsc := ⟨by decide +kernel, by decide +kernel, by decide +kernel, by decide +kernel⟩
theorem qvalueEsc_reserved : Reserved qvalueEsc := ⟨by decide +kernel, by decide +kernel, by decide +kernel, by decide +kernel⟩
theorem subpathEsc_reserved : Reserved subpathEsc := ⟨by decide +kernel, by decide +kernel, by decide +kernel, by decide +kernel⟩

theorem namespaceEsc_slash : namespaceEsc ('/' : Char).toNat.toUInt8 = false := by decide +kernel
theorem subpathEsc_slash : subpathEsc ('/' : Char).toNat.toUInt8 = false := by decide +kernel
theorem nameEsc_slash : nameEsc ('/' : Char).toNat.toUInt8 = true := by decide +kernel
theorem qvalueEsc_amp : qvalueEsc ('&' : Char).toNat.toUInt8 = true := by decide +kernel

theorem Reserved.decode {set : UInt8 → Bool} (h : Reserved set) (s : Str) : decode (pctEncode set s) = .ok s :=
  decode_pctEncode set h.pct s

theorem Reserved.not_mem {set : UInt8 → Bool} (h : Reserved set) {c : Char} (hc : c ∈ ['#', '?', '@']) (s : Str) :
    c ∉ pctEncode set s := by
  simp only [List.mem_cons, List.not_mem_nil, or_false] at hc
  rcases hc with rfl | rfl | rfl
  · exact not_mem_pctEncode (by decide) (by decide) h.hash
  · exact not_mem_pctEncode (by decide) (by decide) h.qmark
  · exact not_mem_pctEncode (by decide) (by decide) h.at_

end Purl
