/-
  The percent-decoder characterised exactly: `decode w = .ok s` iff `w` spells `s` in the sense of `PctSpx` —
  each char raw, or all its UTF-8 bytes as `%XY` escapes (either hex case), or a literal '%' that starts no
  escape.  `PctSp` (Lemmas/PctSpelling) is the sub-relation without the third form; `NsSpx` and `SubSpx` lift
  this to the pieces of a namespace and of a subpath.
-/
import PurlModel.Lemmas.PctSpelling
import PurlModel.Lemmas.Parse
namespace Purl

/-- does the text after a '%' complete an escape? -/
def isEscape : Str → Bool
  | h :: l :: _ => (hexValChar h).isSome && (hexValChar l).isSome
  | _ => false

/-- the same on bytes, in a form that compares with it one position at a time -/
def escB (bs : Bytes) : Bool := (bs.head?.bind hexVal).isSome && (bs.tail.head?.bind hexVal).isSome

theorem isEscape_eq (ws : Str) :
    isEscape ws = ((ws.head?.bind hexValChar).isSome && (ws.tail.head?.bind hexValChar).isSome) := by
  match ws with
  | [] | [_] | _ :: _ :: _ => simp [isEscape]

/-- spellings of a component, including a '%' left alone because no two hex digits follow -/
inductive PctSpx : Str → Str → Prop where
  | nil : PctSpx [] []
  | raw (c : Char) (cs ws : Str) : c ≠ '%' → PctSpx cs ws → PctSpx (c :: cs) (c :: ws)
  | lit (cs ws : Str) : isEscape ws = false → PctSpx cs ws → PctSpx ('%' :: cs) ('%' :: ws)
  | pct (c : Char) (w : Str) (cs ws : Str) : BytesSp (String.utf8EncodeChar c) w → PctSpx cs ws → PctSpx (c :: cs) (w ++ ws)

theorem PctSp.toSpx {s w : Str} (h : PctSp s w) : PctSpx s w := by
  induction h with
  | nil => exact .nil
  | raw c cs ws hc _ ih => exact .raw c cs ws hc ih
  | pct c w cs ws hb _ ih => exact .pct c w cs ws hb ih

theorem pctDecode_no_escape (rest : Bytes) (h : escB rest = false) :
    pctDecode (0x25 :: rest) = 0x25 :: pctDecode rest := by
  unfold pctDecode
  match rest, h with
  | [], _ | [a], _ => simp [pctDecodeAux]
  | a :: b :: r, h =>
    simp only [escB, List.head?_cons, List.tail_cons, Option.bind_some, Bool.and_eq_false_iff,
      Option.isSome_eq_false_iff, Option.isNone_iff_eq_none] at h
    rw [pctDecodeAux, if_pos rfl]
    rcases h with h | h
    · simp only [h]
    · simp only [h]; cases hexVal a <;> rfl

theorem utf8_head_hex (ws : Str) : (utf8 ws).head?.bind hexVal = ws.head?.bind hexValChar ∧
    ((ws.head?.bind hexValChar).isSome → (utf8 ws).tail = utf8 ws.tail) := by
  cases ws with
  | nil => exact ⟨rfl, fun _ => rfl⟩
  | cons c r =>
    rw [utf8_cons]
    by_cases hc : c.toNat < 128
    · rw [utf8EncodeChar_ascii hc]
      exact ⟨by simp [hexValChar, hc], fun _ => rfl⟩
    · obtain ⟨b0, tl, he, _, _⟩ := enc_shape c
      have hn : hexValChar c = none := by simp [hexValChar, hc]
      rw [he]
      refine ⟨?_, by simp [hn]⟩
      simp only [List.cons_append, List.head?_cons, Option.bind_some, hn]
      -- a hex digit is an ASCII byte, and an ASCII byte encodes an ASCII char
      cases hb : hexVal b0 with
      | none => rfl
      | some v => exact absurd (utf8EncodeChar_ascii_byte (c := c) (by rw [he]; simp) (hexVal_bounds hb).1).1 hc

theorem escB_utf8 (ws : Str) : escB (utf8 ws) = isEscape ws := by
  obtain ⟨h1, h2⟩ := utf8_head_hex ws
  rw [isEscape_eq, escB, h1]
  cases hx : (ws.head?.bind hexValChar).isSome with
  | false => rfl
  | true => rw [h2 hx, (utf8_head_hex ws.tail).1]

theorem pctDecode_lit (ws : Str) (h : isEscape ws = false) :
    pctDecode (utf8 ('%' :: ws)) = 0x25 :: pctDecode (utf8 ws) := by
  rw [utf8_pct, pctDecode_no_escape _ (by rw [escB_utf8]; exact h)]

theorem pctDecode_copied {c : Char} {ws : Str} (h : c = '%' → isEscape ws = false) :
    pctDecode (utf8 (c :: ws)) = String.utf8EncodeChar c ++ pctDecode (utf8 ws) := by
  by_cases hc : c = '%'
  · subst hc
    rw [pctDecode_lit ws (h rfl), utf8EncodeChar_ascii (c := '%') (by decide)]
    rfl
  · exact pctDecode_raw_char hc ws

theorem PctSpx.copied {c : Char} {cs ws : Str} (h : c = '%' → isEscape ws = false) (hs : PctSpx cs ws) :
    PctSpx (c :: cs) (c :: ws) := by
  by_cases hc : c = '%'
  · subst hc
    exact .lit cs ws (h rfl) hs
  · exact .raw c cs ws hc hs

theorem pctDecode_isEscape {ws : Str} (h : isEscape ws = true) :
    ∃ x h' l r, ws = h' :: l :: r ∧ pctDecode (utf8 ('%' :: ws)) = x :: pctDecode (utf8 r) ∧
      hexValChar h' = some (x / 16) ∧ hexValChar l = some (x % 16) := by
  match ws, h with
  | h' :: l :: r, h =>
    simp only [isEscape, Bool.and_eq_true, Option.isSome_iff_exists] at h
    obtain ⟨⟨hv, e1⟩, ⟨lv, e2⟩⟩ := h
    have n := nibbles hv lv (hexVal_bounds (hexValChar_ascii e1).2).2 (hexVal_bounds (hexValChar_ascii e2).2).2
    exact ⟨hv * 16 + lv, h', l, r, rfl, utf8_append ['%', h', l] r ▸ pctDecode_escape e1 e2 (utf8 r),
      n.1.symm ▸ e1, n.2.symm ▸ e2⟩

theorem pctSpx_decodes (s w : Str) (h : PctSpx s w) : decode w = .ok s := by
  apply decode_of_bytes
  induction h with
  | nil => rfl
  | raw c cs ws hc _ ih => rw [pctDecode_raw_char hc, ih, utf8_cons]
  | lit cs ws he _ ih => rw [pctDecode_lit _ he, ih, utf8_pct]
  | pct c w' cs ws hb _ ih =>
    rw [utf8_append, bytesSp_decode _ _ hb, ih, utf8_cons]

/-! Completeness.  Let the decoder's output be the encoding of `t`, and `d` the first char of `t`.  Where the
text starts with a copied char, a whole encoding is copied, and it is that of `d` because UTF-8 is prefix-free.
Where it starts with an escape, that gives the first byte of `d`; the other bytes of `d` are continuation bytes,
and a copied char would put a first byte in their place: they come from escapes too, so `d` is escaped whole. -/

theorem continuation_from_escapes (bs : Bytes) (hbs : ∀ x ∈ bs, ¬ x.IsUTF8FirstByte) :
    ∀ (ws : Str) (rest : Bytes), pctDecode (utf8 ws) = bs ++ rest →
      ∃ sp ws', ws = sp ++ ws' ∧ BytesSp bs sp ∧ pctDecode (utf8 ws') = rest := by
  induction bs with
  | nil => intro ws rest h; exact ⟨[], ws, rfl, .nil, h⟩
  | cons x bs' ih =>
    intro ws rest h
    match ws with
    | [] => simp [utf8, pctDecode_nil] at h
    | c :: ws1 =>
      by_cases he : c = '%' ∧ isEscape ws1 = true
      · obtain ⟨rfl, he⟩ := he
        obtain ⟨x', h', l, r, rfl, hd, e1, e2⟩ := pctDecode_isEscape he
        rw [hd] at h
        obtain ⟨rfl, h2⟩ := List.cons.inj h
        obtain ⟨sp, ws', rfl, hsp, hrest⟩ := ih (fun y hy => hbs y (by simp [hy])) r rest h2
        exact ⟨'%' :: h' :: l :: sp, ws', rfl, .cons x' h' l _ _ e1 e2 hsp, hrest⟩
      · obtain ⟨b0, tl, hb, hb0, _⟩ := enc_shape c
        rw [pctDecode_copied (by simpa using he), hb] at h
        have : b0 = x := (List.cons.inj h).1
        exact absurd (this ▸ hb0) (hbs x (by simp))

theorem decodes_pctSpx_aux : ∀ (t w : Str), pctDecode (utf8 w) = utf8 t → PctSpx t w := by
  intro t
  induction t with
  | nil =>
    intro w h
    cases w with
    | nil => exact .nil
    | cons c ws => exact absurd h (pctDecode_ne_nil (utf8_ne_nil (List.cons_ne_nil c ws)))
  | cons d t' ih =>
    intro w h
    match w with
    | [] => exact absurd h.symm (utf8_ne_nil (List.cons_ne_nil d t'))
    | c :: ws =>
      rw [utf8_cons d] at h
      by_cases he : c = '%' ∧ isEscape ws = true
      · obtain ⟨rfl, he⟩ := he
        obtain ⟨x, h', l, r, rfl, hd, e1, e2⟩ := pctDecode_isEscape he
        obtain ⟨b0, tl, hb, _, htl⟩ := enc_shape d
        rw [hd, hb] at h
        obtain ⟨rfl, h2⟩ := List.cons.inj h
        obtain ⟨sp, ws', rfl, hsp, hrest⟩ := continuation_from_escapes tl htl r (utf8 t') h2
        exact .pct d ('%' :: h' :: l :: sp) t' ws' (hb ▸ .cons x h' l _ _ e1 e2 hsp) (ih ws' hrest)
      · have hcopy : c = '%' → isEscape ws = false := by simpa using he
        rw [pctDecode_copied hcopy] at h
        obtain ⟨rfl, e2⟩ := enc_prefix_free h
        exact .copied hcopy (ih ws e2)

theorem decodes_pctSpx {w s : Str} (h : decode w = .ok s) : PctSpx s w :=
  decodes_pctSpx_aux s w (decode_ok_iff_bytes.1 h)

theorem decode_ok_iff (w s : Str) : decode w = .ok s ↔ PctSpx s w :=
  ⟨decodes_pctSpx, pctSpx_decodes s w⟩

/-- pieces (the text between raw '/') of a namespace and the segments they denote -/
inductive NsSpx : List Str → List Str → Prop where
  | nil : NsSpx [] []
  | empty (segs ps : List Str) : NsSpx segs ps → NsSpx segs ([] :: ps)
  | seg (s w : Str) (segs ps : List Str) : w ≠ [] → '/' ∉ s → PctSpx s w → NsSpx segs ps → NsSpx (s :: segs) (w :: ps)

theorem nsDecoded_iff (ps segs : List Str) : nsDecoded ps = .ok segs ↔ NsSpx segs ps := by
  constructor
  · intro h
    fun_induction nsDecoded ps generalizing segs with
    | case1 => cases h; exact .nil
    | case2 seg rest hs ih => obtain rfl := List.isEmpty_iff.1 hs; exact .empty segs rest (ih _ h)
    | case6 seg rest hs d hd hc ds hr ih =>  -- the one branch that returns `.ok (d :: ds)`
      cases h
      exact .seg d seg ds rest (by simpa using hs) (by simpa using hc) (decodes_pctSpx hd) (ih _ hr)
    | _ => cases h
  · intro h
    induction h with
    | nil => rfl
    | empty segs ps _ ih => simp [nsDecoded, ih]
    | seg s w segs ps hne hsl hp _ ih =>
      have hw : w.isEmpty = false := List.isEmpty_eq_false_iff.2 hne
      have hc : s.contains '/' = false := by simpa using hsl
      simp only [nsDecoded, hw, Bool.false_eq_true, if_false, pctSpx_decodes s w hp, hc, ih]

/-- pieces of a subpath and the segments they denote: raw "", "." and ".." are skipped, any other piece
spells a segment without '/' that is not "." or ".." -/
inductive SubSpx : List Str → List Str → Prop where
  | nil : SubSpx [] []
  | skip (d : Str) (segs ps : List Str) : isDotSeg d = true → SubSpx segs ps → SubSpx segs (d :: ps)
  | seg (s w : Str) (segs ps : List Str) : isDotSeg w = false → badSubSeg s = false → PctSpx s w →
      SubSpx segs ps → SubSpx (s :: segs) (w :: ps)

theorem subDecoded_iff (ps segs : List Str) : subDecoded ps = .ok segs ↔ SubSpx segs ps := by
  constructor
  · intro h
    fun_induction subDecoded ps generalizing segs with
    | case1 => cases h; exact .nil
    | case2 seg rest hs ih => exact .skip seg segs rest hs (ih _ h)
    | case6 seg rest hs d hd hc ds hr ih =>  -- the one branch that returns `.ok (d :: ds)`
      cases h
      exact .seg d seg ds rest (by simpa using hs) (by simpa using hc) (decodes_pctSpx hd) (ih _ hr)
    | _ => cases h
  · intro h
    induction h with
    | nil => rfl
    | skip d segs ps hd _ ih => simp [subDecoded, hd, ih]
    | seg s w segs ps hw hb hp _ ih =>
      simp only [subDecoded, hw, Bool.false_eq_true, if_false, pctSpx_decodes s w hp, hb, ih]

end Purl
