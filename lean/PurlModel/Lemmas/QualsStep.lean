/-
  Every operation of the `Qualifiers` API (`Quals.step`) answers on every collection — the two documented
  panics apart — and preserves the representation invariant: one walk through the operations
  (`step_total`), each case by the closed form of the call (Lemmas/Quals.lean).  Then construction from
  pairs (`try_from_iter`) as a map.
-/
import PurlModel.Ops
import PurlModel.Lemmas.QualsInv
import PurlModel.Lemmas.Checksum
namespace Purl
open Generated

/-- the documented panics of the collection: indexing an absent qualifier, a typed insert whose
declared key is invalid -/
def docPanic (q : Quals) : QOp → Bool
  | .index k | .indexMutSet k _ => !(isValidKey k && (lookupS (asciiLower k) q).isSome)
  | .insertTyped n _ => !isValidKey (knownKey n)
  | _ => false

theorem rIterAppend_keys (x : Str) (q : Quals) : (rIterAppend x q).map (·.1) = q.map (·.1) := by
  simp only [rIterAppend, List.map_map]
  conv => rhs; rw [← List.zipIdx_map_fst 0 q, List.map_map]
  rfl

variable (U : UnicodeOps) [LawfulUnicode U]

theorem insert_inv {q q' : Quals} {k v slot : Str} (hq : QInv q) (h : q.insert U k v = .ok (slot, q')) : QInv q' := by
  cases hk : isValidKey k with
  | false => rw [insert_invalid U hk] at h; cases h
  | true => rw [insert_valid U hk] at h; cases h; exact QInv_upsert v hq (keyOk_asciiLower hk)

theorem remove_inv {q q' : Quals} {k : Str} {o : Option Str} (hq : QInv q) (h : q.remove U k = .ok (o, q')) : QInv q' := by
  rw [remove_eq U] at h
  cases hk : isValidKey k <;> rw [hk] at h <;> cases h
  · exact hq
  · exact QInv_eraseS _ hq

theorem insertTyped_inv {q q' : Quals} {k v : Str} (hq : QInv q) (h : q.insertTyped U k v = .ok q') : QInv q' := by
  cases hk : isValidKey k with
  | false => simp only [Quals.insertTyped, insert_invalid U hk] at h; cases h
  | true => rw [insertTyped_valid U hk] at h; cases h; exact QInv_upsert v hq (keyOk_asciiLower hk)

theorem tryFromIter_cons (k v : Str) (rest : List (Str × Str)) (acc : Quals) :
    Quals.tryFromIter U ((k, v) :: rest) acc =
      if isValidKey k = true ∧ foundAt (asciiLower k) acc = false then
        Quals.tryFromIter U rest (upsert (asciiLower k) v acc)
      else fail .invalidQualifier := by
  rw [Quals.tryFromIter]
  cases hk : isValidKey k with
  | false => rw [entry_invalid U hk]; rfl
  | true =>
    obtain ⟨mk, hmk, he⟩ := entry_valid U hk acc
    rw [he]
    cases hf : foundAt (asciiLower k) acc with
    | true => rfl
    | false => simp only [Bool.false_eq_true, if_false, vacantInsert_eq hmk hf]; rfl

theorem tryFromIter_inv {items : List (Str × Str)} {acc q : Quals} (hq : QInv acc)
    (h : Quals.tryFromIter U items acc = .ok q) : QInv q := by
  induction items generalizing acc with
  | nil => cases h; exact hq
  | cons kv rest ih =>
    rw [tryFromIter_cons] at h
    split at h
    next hk => exact ih (QInv_upsert _ hq (keyOk_asciiLower hk.1)) h
    · cases h

theorem tryFromIter_error_kind {items : List (Str × Str)} {acc : Quals} {f : Fault PErr}
    (h : Quals.tryFromIter U items acc = .error f) : f = .err .invalidQualifier := by
  induction items generalizing acc with
  | nil => cases h
  | cons kv rest ih =>
    rw [tryFromIter_cons] at h
    split at h
    · exact ih h
    · cases h; rfl

theorem step_total (q : Quals) (op : QOp) (h : docPanic q op = false) :
    ∃ o q', q.step U op = .ok (o, q') ∧ (QInv q → QInv q') := by
  have ups : ∀ {k : Str} (v : Str), isValidKey k = true → QInv q → QInv (upsert (asciiLower k) v q) :=
    fun v hk hq => QInv_upsert v hq (keyOk_asciiLower hk)
  have fresh : ∀ items, ∃ o q', (match Quals.tryFromIter U items [] with
      | .ok q' => (.ok (.unit, q') : Res PErr (QOut × Quals))
      | .error (.err e) => .ok (.err e, q)
      | .error (.panic s) => panic s) = .ok (o, q') ∧ (QInv q → QInv q') := by
    intro items
    cases e : Quals.tryFromIter U items [] with
    | ok q' => exact ⟨_, _, rfl, fun _ => tryFromIter_inv U QInv_nil e⟩
    | error f => cases tryFromIter_error_kind U e; exact ⟨_, _, rfl, id⟩
  cases op with
  | insert k v =>
    rw [Quals.step]
    cases hk : isValidKey k with
    | false => rw [insert_invalid U hk]; exact ⟨_, _, rfl, id⟩
    | true => rw [insert_valid U hk]; exact ⟨_, _, rfl, ups v hk⟩
  | get k | getTyped n => simp only [Quals.step, get_eq U]; exact ⟨_, _, rfl, id⟩
  | has k | hasTyped n => simp only [Quals.step, containsKey_eq U]; exact ⟨_, _, rfl, id⟩
  | getMutSet k v =>
    simp only [Quals.step, getMutIndex_eq U]
    cases hk : isValidKey k with
    | false => exact ⟨_, _, rfl, id⟩
    | true =>
      cases hf : foundAt (asciiLower k) q with
      | false => exact ⟨_, _, rfl, id⟩
      | true => simp only [Bool.and_self, if_true, setAt_lb_eq_upsert hf]; exact ⟨_, _, rfl, ups v hk⟩
  | remove k | removeTyped n =>
    simp only [Quals.step, remove_eq U]
    cases isValidKey _
    · exact ⟨_, _, rfl, id⟩
    · exact ⟨_, _, rfl, QInv_eraseS _⟩
  | entry k a =>
    rw [Quals.step]
    cases hk : isValidKey k with
    | false => rw [entry_invalid U hk]; exact ⟨_, _, rfl, id⟩
    | true =>
      obtain ⟨mk, hmk, he⟩ := entry_valid U hk q
      rw [he]
      cases hf : foundAt (asciiLower k) q with
      | true =>
        obtain ⟨w, -, hg, hs, hr⟩ := vec_at_found hf
        simp only [if_true, Quals.occGet, Quals.occInsert, Quals.occRemoveEntry, hg, hs, hr]
        cases a with
        | orInsert v | orInsertWith v | get | vacInsert v => exact ⟨_, _, rfl, id⟩
        | andModify v => simp only [setAt_lb_eq_upsert hf]; exact ⟨_, _, rfl, ups v hk⟩
        | occInsert v => exact ⟨_, _, rfl, ups v hk⟩
        | occRemove | occRemoveEntry => exact ⟨_, _, rfl, QInv_eraseS _⟩
      | false =>
        simp only [Bool.false_eq_true, if_false]
        cases a with
        | orInsert v | orInsertWith v | vacInsert v =>
          simp only [vacantInsert_eq hmk hf]; exact ⟨_, _, rfl, ups v hk⟩
        | andModify v | get | occInsert v | occRemove | occRemoveEntry => exact ⟨_, _, rfl, id⟩
  | retainNonEmpty | retainKeyLt k => exact ⟨_, _, rfl, QInv_filter _⟩
  | retainMutAppend x => exact ⟨_, _, rfl, fun hq => QInv_filter _ (QInv_mapValues (fun kv => kv.2 ++ x) hq)⟩
  | clear => exact ⟨_, _, rfl, fun _ => QInv_nil⟩
  | len | eqFresh | snapshot | iter | riter | ends | iterScript m ops => exact ⟨_, _, rfl, id⟩
  | iterMutAppend x => exact ⟨_, _, rfl, QInv_mapValues (fun kv => kv.2 ++ x)⟩
  | rIterMutAppend x => exact ⟨_, _, rfl, QInv_of_keys_eq (rIterAppend_keys x q)⟩
  | index k =>
    simp only [docPanic, Bool.not_eq_eq_eq_not, Bool.not_false, Bool.and_eq_true] at h
    obtain ⟨w, hw⟩ := Option.isSome_iff_exists.1 h.2
    simp only [Quals.step, index_eq U, h.1, if_true, hw]
    exact ⟨_, _, rfl, id⟩
  | indexMutSet k v =>
    simp only [docPanic, Bool.not_eq_eq_eq_not, Bool.not_false, Bool.and_eq_true] at h
    have hf : foundAt (asciiLower k) q = true := by rw [foundAt_eq_lookupS]; exact h.2
    simp only [Quals.step, getIndex_eq U, h.1, h.2, Bool.and_self, if_true, setAt_lb_eq_upsert hf]
    exact ⟨_, _, rfl, ups v h.1⟩
  | tryFromIter items | cloneFrom items => exact fresh items
  | tryInsertChecksum alg raw =>
    simp only [Quals.step, toText_eq]
    cases (Cksum.insertRaw U [] alg raw).all fun kv => hexOk kv.2
    · exact ⟨_, _, rfl, id⟩
    · have hck : isValidKey checksumKey = true := by decide
      simp only [if_true, insertTyped_valid U hck]; exact ⟨_, _, rfl, ups _ hck⟩
  | eqKey i s | cmpKey i s => rw [Quals.step]; cases q[i]? <;> exact ⟨_, _, rfl, id⟩
  | insertTyped n v =>
    simp only [docPanic, Bool.not_eq_eq_eq_not, Bool.not_false] at h
    simp only [Quals.step, insertTyped_valid U h]
    exact ⟨_, _, rfl, ups v h⟩
  | tryGetChecksum =>
    simp only [Quals.step, get_eq U, toText_eq]
    cases (if isValidKey checksumKey = true then lookupS (asciiLower checksumKey) q else none) with
    | none => exact ⟨_, _, rfl, id⟩
    | some t =>
      dsimp only
      cases Cksum.ofText U t with
      | error e => exact ⟨_, _, rfl, id⟩
      | ok ck => dsimp only; cases ck.all fun kv => hexOk kv.2 <;> exact ⟨_, _, rfl, id⟩

theorem step_index_absent_panics (q : Quals) (k : Str) (h : docPanic q (.index k) = true) :
    q.step U (.index k) = panic .qualIndex := by
  simp only [docPanic, Bool.not_eq_eq_eq_not, Bool.not_true] at h
  unfold Quals.step
  simp only [Quals.index, getIndex_eq U, h]
  rfl

omit [LawfulUnicode U] in
theorem step_insertTyped_invalid_panics (q : Quals) (n : Nat) (v : Str) (h : isValidKey (knownKey n) = false) :
    q.step U (.insertTyped n v) = panic .typedKey := by
  unfold Quals.step
  simp only [insertTyped_invalid U h]
  rfl

theorem step_docPanic (q : Quals) (op : QOp) (h : docPanic q op = true) : ∃ s, q.step U op = panic s := by
  cases op with
  | index k => exact ⟨_, step_index_absent_panics U q k h⟩
  | indexMutSet k v =>
    simp only [docPanic, Bool.not_eq_eq_eq_not, Bool.not_true] at h
    exact ⟨.qualIndex, by unfold Quals.step; simp only [getIndex_eq U, h]; rfl⟩
  | insertTyped n v =>
    simp only [docPanic, Bool.not_eq_eq_eq_not, Bool.not_true] at h
    exact ⟨_, step_insertTyped_invalid_panics U q n v h⟩
  | _ => cases h

theorem step_inv {q q' : Quals} {op : QOp} {o : QOut} (hq : QInv q) (h : q.step U op = .ok (o, q')) : QInv q' := by
  cases hd : docPanic q op with
  | false =>
    obtain ⟨_, _, e, hi⟩ := step_total U q op hd
    rw [e] at h; cases h
    exact hi hq
  | true =>
    obtain ⟨s, e⟩ := step_docPanic U q op hd
    rw [e] at h; cases h

theorem step_ok (q : Quals) (op : QOp) (h : docPanic q op = false) : ∃ r, q.step U op = .ok r :=
  let ⟨_, _, e, _⟩ := step_total U q op h
  ⟨_, e⟩

/-- what a list of pairs contributes under key `p` (first pair whose lower-cased key is `p`) -/
def pairsLookup (items : List (Str × Str)) (p : Str) : Option Str :=
  (items.find? fun kv => asciiLower kv.1 == p).map (·.2)

theorem pairsLookup_eq_lookup (items : List (Str × Str)) (p : Str) :
    pairsLookup items p = lookup (items.map fun kv => (asciiLower kv.1, kv.2)) p := by
  simp [pairsLookup, lookup, List.find?_map, Function.comp_def]

theorem pairsLookup_cons (k v : Str) (rest : List (Str × Str)) (p : Str) :
    pairsLookup ((k, v) :: rest) p = if asciiLower k = p then some v else pairsLookup rest p := by
  unfold pairsLookup
  by_cases h : asciiLower k = p <;> simp [h]

/-- `try_from_iter` on pairs with valid keys, distinct ignoring case and not yet present: all are
stored (empty values included), on top of what was there -/
theorem tryFromIter_of_distinct (items : List (Str × Str)) (acc : Quals) (hacc : QInv acc)
    (hok : ∀ kv ∈ items, isValidKey kv.1 = true) (hnd : (items.map fun kv => asciiLower kv.1).Nodup)
    (hdis : ∀ kv ∈ items, lookup acc (asciiLower kv.1) = none) :
    ∃ q, Quals.tryFromIter U items acc = .ok q ∧ QInv q ∧
      ∀ p, lookup q p = (match pairsLookup items p with | some v => some v | none => lookup acc p) := by
  induction items generalizing acc with
  | nil => exact ⟨acc, rfl, hacc, fun p => rfl⟩
  | cons x rest ih =>
    obtain ⟨k, v⟩ := x
    have hk : isValidKey k = true := hok (k, v) (by simp)
    obtain ⟨hnk, hnd⟩ := List.nodup_cons.1 hnd
    have hne : ∀ y ∈ rest, asciiLower y.1 ≠ asciiLower k := fun y hy e =>
      hnk (List.mem_map.2 ⟨y, hy, e⟩)
    have hf : foundAt (asciiLower k) acc = false := by
      rw [foundAt_eq_lookup hacc.1, hdis (k, v) (by simp)]; rfl
    rw [tryFromIter_cons, if_pos ⟨hk, hf⟩]
    obtain ⟨q, h1, h2, h3⟩ := ih _ (QInv_upsert v hacc (keyOk_asciiLower hk)) (fun y hy => hok y (by simp [hy])) hnd
      fun y hy => by rw [lookup_upsert v, if_neg (hne y hy)]; exact hdis y (by simp [hy])
    refine ⟨q, h1, h2, fun p => ?_⟩
    rw [h3 p, lookup_upsert v, pairsLookup_cons]
    by_cases e : p = asciiLower k
    · -- no later pair has this key
      have : pairsLookup rest p = none := by
        unfold pairsLookup
        rw [List.find?_eq_none.2 fun y hy => by simpa [e] using hne y hy]
        rfl
      rw [this, if_pos e, if_pos e.symm]
    · rw [if_neg e, if_neg (Ne.symm e)]

end Purl
